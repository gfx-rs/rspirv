import Rspirv.Generated.Spirv
import Rspirv.Reference.PinnedSpirv
/-!
# C08 — spirv enums and bit-masks map numbers and names exactly as declared

Instantiation of the generic theorems of `Rspirv.Generic.Enum` on the tables regenerated from
`spirv/autogen_spirv.rs` on every run. The only thing a source change can break here are the two
table checks (`enums_wf`, evaluated by the kernel, and `C08_pinned`, a comparison of literals).
-/
namespace Rspirv.Props.C08
open Rspirv Rspirv.Generated.Spirv

deriving instance DecidableEq for EnumSpec
deriving instance DecidableEq for MaskSpec

/-- table check (kernel evaluation over all 45 enums / 360 arms / 1915 enumerants) -/
theorem enums_wf : ∀ E ∈ enums, E.rangesExact = true ∧ E.namesExact = true := by decide +kernel

/-- **C08 (numbers).** For every enumeration of the crate and every natural number `n` (in particular all
2^32 words): `from_u32 n` yields a value iff `n` is a declared discriminant, and that value converts back
to `n`. Hence no conversion materialises an undeclared discriminant. -/
theorem C08_enum (E : EnumSpec) (hE : E ∈ enums) (n : Nat) :
    ((E.fromU32 n).isSome ↔ n ∈ E.declVals) ∧ (∀ d, E.fromU32 n = some d → d = n) :=
  E.fromU32_exact (enums_wf E hE).1 n

/-- **C08 (names).** Every variant's textual name parses back to it; every alias parses to its target. -/
theorem C08_names (E : EnumSpec) (hE : E ∈ enums) (hf : E.hasFromStr = true) :
    (∀ d ∈ E.decl, E.fromStrName d.1 = some d.1) ∧
    (∀ a ∈ E.aliases, E.fromStrName a.1 = some a.2) :=
  E.names_exact hf (enums_wf E hE).2

/-- **C08 (masks).** For every bit-mask type and every `n`: accepted iff all set bits are declared. -/
theorem C08_mask (M : MaskSpec) (_ : M ∈ masks) (n : Nat) :
    ((M.fromBits n).isSome ↔ ∀ i, n.testBit i = true → ∃ c ∈ M.consts, c.2.testBit i = true) ∧
    (∀ v, M.fromBits n = some v → v = n) := M.fromBits_exact n

/-- **C08 (pinned).** Declared values and names equal the snapshot of the pinned SDK release. -/
theorem C08_pinned : enums = Rspirv.Reference.PinnedSpirv.enums ∧ masks = Rspirv.Reference.PinnedSpirv.masks ∧
    const_MAGIC_NUMBER = 0x07230203 := ⟨rfl, rfl, rfl⟩

/-- non-vacuity: the hypotheses are met by concrete, non-trivial members -/
example : enum_Capability ∈ enums ∧ enum_Capability.hasFromStr = true ∧ enum_Capability.decl.length > 200 := by
  decide +kernel
example : (enum_Dim.fromU32 3).isSome = true ∧ (enum_Dim.fromU32 7).isSome = false ∧
    (enum_FPEncoding.fromU32 0x7fffffff) = some 0x7fffffff := by decide +kernel
example : (mask_ImageOperands.fromBits 65537).isSome = true ∧ (mask_ImageOperands.fromBits 32768).isSome = false := by
  decide +kernel

end Rspirv.Props.C08
