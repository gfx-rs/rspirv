import Rspirv.Props.C10
/-!
# C10 — "decided solely by the integer and float type declarations that precede it"

`Rspirv.Props.C10Track` and `Rspirv.Props.C10` state what one `track` step and one `parse_literal` call do. This file lifts the
step lemmas to whole prefixes of a binary (every length, by induction over the instruction list):

* `C10_solely` — the tracker reached after any prefix is the tracker reached after only those instructions of the
  prefix that *can* bind a width: `OpTypeInt`/`OpTypeFloat` declarations and value definitions. Every other
  instruction (no result id, or any other type declaration) can be removed from, or inserted into, the prefix
  without changing a single later width decision.
* `C10_extensional` — the width decision and the tracker's evolution depend on the tracker only through
  `resolve`: two trackers which resolve every id alike decide every literal alike, and still resolve alike after
  tracking the same instruction.
* `C10_newest_wins` — after a declaration `rid ↦ t` and any further instructions none of which defines `rid`
  again, `rid` still resolves to `t`; so the literal is sized by the newest preceding declaration of its type.
-/
namespace Rspirv.Props.C10
open Rspirv Rspirv.Model Rspirv.Model.DState

/-- `track` folded over a prefix of the instruction stream; `none` = the out-of-bounds panic of `track` -/
def trackAll (G : TTables) : List Inst → Tracker → Option Tracker
  | [], τ => some τ
  | i :: is, τ =>
    match τ.track G i with
    | some τ' => trackAll G is τ'
    | none => none

/-- instructions that cannot bind a width: no result id, or a type declaration other than int / float -/
def inert (G : TTables) (i : Inst) : Bool :=
  i.rid.isNone || (G.isType i.opcode && !(i.opcode == G.opTypeInt) && !(i.opcode == G.opTypeFloat))

theorem track_inert (G : TTables) (τ : Tracker) (i : Inst) (h : inert G i = true) : τ.track G i = some τ := by
  unfold inert at h
  cases hr : i.rid with
  | none => exact C10.C10_track_noid G τ i hr
  | some rid =>
    simp only [hr, Option.isNone_some, Bool.false_or, Bool.and_eq_true, Bool.not_eq_true'] at h
    obtain ⟨⟨hT, h1⟩, h2⟩ := h
    simp [Tracker.track, hr, hT, h1, h2]

/-- **C10 (solely).** For every prefix and every starting tracker: dropping all inert instructions from the prefix
leaves the resulting tracker — and with it every later literal width — unchanged. -/
theorem C10_solely (G : TTables) : ∀ (is : List Inst) (τ : Tracker),
    trackAll G is τ = trackAll G (is.filter (fun i => !inert G i)) τ := by
  intro is
  induction is with
  | nil => exact fun _ => rfl
  | cons i is ih =>
    intro τ
    rw [List.filter_cons]
    cases h : inert G i
    · rw [Bool.not_false, if_pos rfl, trackAll, trackAll]
      cases τ.track G i with
      | none => rfl
      | some τ' => exact ih τ'
    · rw [Bool.not_true, if_neg Bool.false_ne_true, trackAll, track_inert G τ i h]
      exact ih τ

/-- two trackers that resolve every id alike -/
def Agree (τ₁ τ₂ : Tracker) : Prop := ∀ id, τ₁.resolve id = τ₂.resolve id

theorem agree_cons (τ₁ τ₂ : Tracker) (h : Agree τ₁ τ₂) (rid : Nat) (t : TType) :
    Agree ((rid, t) :: τ₁) ((rid, t) :: τ₂) := by
  intro id; rw [resolve_cons, resolve_cons, h id]

theorem track_shape (G : TTables) (τ τ' : Tracker) (i : Inst) (h : τ.track G i = some τ') :
    τ' = τ ∨ ∃ rid t, i.rid = some rid ∧ τ' = (rid, t) :: τ := by
  rcases track_cases G τ i with h' | ⟨rid, t, hr, h'⟩ | ⟨h', _⟩ <;> rw [h'] at h <;> cases h
  · exact .inl rfl
  · exact .inr ⟨rid, t, hr, rfl⟩

theorem agree_bindInto (τ₁ τ₂ : Tracker) (h : Agree τ₁ τ₂) (b : Option (Nat × TType)) :
    Agree (bindInto τ₁ b) (bindInto τ₂ b) := by
  cases b with
  | none => exact h
  | some p => exact agree_cons τ₁ τ₂ h p.1 p.2

/-- **C10 (extensionality).** The width decision reads the tracker only through `resolve`, and `track` preserves
agreement: whatever else differs between two tracker states (order of unrelated bindings, shadowed bindings) never
shows in a literal's width, now or after any number of further instructions. -/
theorem C10_extensional (G : Tables) (τ₁ τ₂ : Tracker) (h : Agree τ₁ τ₂) :
    (∀ idx t d, parseLiteral G τ₁ idx t d = parseLiteral G τ₂ idx t d) ∧
    (∀ (T : TTables) (i : Inst), ∃ b : Option (Option (Nat × TType)), τ₁.track T i = b.map (bindInto τ₁) ∧ τ₂.track T i = b.map (bindInto τ₂)) := by
  have hres : τ₁.resolve = τ₂.resolve := funext h
  constructor
  · intro idx t d
    unfold parseLiteral
    rw [h t]
  · intro T i
    exact ⟨binding T τ₁.resolve i, track_eq_binding T τ₁ i, by rw [hres]; exact track_eq_binding T τ₂ i⟩

/-- agreement survives every prefix: both runs panic together or end in agreeing trackers -/
theorem C10_extensional_run (T : TTables) : ∀ (is : List Inst) (τ₁ τ₂ : Tracker), Agree τ₁ τ₂ →
    (trackAll T is τ₁ = none ∧ trackAll T is τ₂ = none) ∨
    ∃ a b, trackAll T is τ₁ = some a ∧ trackAll T is τ₂ = some b ∧ Agree a b := by
  intro is
  induction is with
  | nil => exact fun τ₁ τ₂ h => Or.inr ⟨τ₁, τ₂, rfl, rfl, h⟩
  | cons i is ih =>
    intro τ₁ τ₂ h
    have hres : τ₁.resolve = τ₂.resolve := funext h
    simp only [trackAll, track_eq_binding, ← hres]
    cases binding T τ₁.resolve i with
    | none => exact Or.inl ⟨rfl, rfl⟩
    | some b => exact ih _ _ (agree_bindInto τ₁ τ₂ h b)

/-- **C10 (newest preceding declaration wins).** If `rid` resolves to `r` and none of the following instructions
defines `rid` again, `rid` still resolves to `r` after them — for every number of instructions in between. -/
theorem C10_newest_wins (G : TTables) : ∀ (is : List Inst) (τ τ' : Tracker) (rid : Nat) (r : Option TType),
    τ.resolve rid = r → (∀ i ∈ is, i.rid ≠ some rid) → trackAll G is τ = some τ' → τ'.resolve rid = r := by
  intro is τ τ' rid r hr hn h
  fun_induction trackAll G is τ with
  | case1 τ => exact Option.some.inj h ▸ hr
  | case2 i is τ τ₁ ht ih =>
    refine ih ?_ (fun j hj => hn j (List.mem_cons_of_mem _ hj)) h
    rcases track_shape G τ τ₁ i ht with rfl | ⟨x, t, hx, rfl⟩
    · exact hr
    · rw [resolve_cons, if_neg (fun (e : x = rid) => hn i List.mem_cons_self (e ▸ hx)), hr]
  | case3 i is τ ht => cases h

/-- the declaration, anything that does not redefine it, then the constant: the literal has the declared width -/
theorem C10_decl_reaches (G : TTables) (τ τ' : Tracker) (rid bits sign : Nat) (rest : List Operand) (mid : List Inst)
    (hT : G.isType G.opTypeInt = true) (hn : ∀ i ∈ mid, i.rid ≠ some rid)
    (h : trackAll G (⟨G.opTypeInt, none, some rid, .w G.vLit32 bits :: .w G.vLit32 sign :: rest⟩ :: mid) τ = some τ') :
    litWords (τ'.resolve rid) = litWords (some (.int bits (sign == 1))) := by
  simp only [trackAll, C10_track_int G τ rid bits sign rest hT] at h
  rw [C10_newest_wins G mid _ τ' rid (some (.int bits (sign == 1))) (by rw [resolve_cons]; simp) hn h]

/-! ### the parse loop uses exactly `trackAll` of the instructions it has delivered -/

theorem trackAll_snoc (G : TTables) : ∀ (is : List Inst) (i : Inst) (τ : Tracker),
    trackAll G (is ++ [i]) τ = (trackAll G is τ).bind (fun τ' => τ'.track G i) := by
  intro is i τ
  fun_induction trackAll G is τ with
  | case1 τ => rw [List.nil_append, trackAll, Option.bind_some]; cases τ.track G i <;> rfl
  | case2 j is τ τ' ht ih => rw [List.cons_append, trackAll, ht]; exact ih
  | case3 j is τ ht => rw [List.cons_append, trackAll, ht]; rfl

/-- the instructions among the callback events, oldest first (`tr` is the loop's newest-first event list) -/
def delivered (tr : List Ev) : List Inst :=
  tr.reverse.filterMap (fun e => match e with | .inst i => some i | _ => none)

theorem delivered_inst (i : Inst) (tr : List Ev) : delivered (.inst i :: tr) = delivered tr ++ [i] := by
  simp [delivered, List.filterMap_append]

/-- the parse loop with the tracker argument removed: the tracker is recomputed from the delivered instructions -/
def parseLoopD (G : Tables) (script : Nat → Action) : Nat → Nat → Nat → DState → List Ev → Run
  | 0, _, _, _, tr => ⟨.panic "parse: no progress", tr.reverse⟩
  | fuel + 1, k, idx, d, tr =>
    match trackAll G.tt (delivered tr) [] with
    | none => ⟨.panic "tracker: operand index", tr.reverse⟩
    | some τ =>
      match parseInst G τ (idx + 1) d with
      | (.ok i, d1) =>
        match τ.track G.tt i with
        | none => ⟨.panic "tracker: operand index", tr.reverse⟩
        | some _ =>
          let tr1 := Ev.inst i :: tr
          match consume (script k) k with
          | some e => ⟨.err e, tr1.reverse⟩
          | none => parseLoopD G script fuel (k + 1) (idx + 1) d1 tr1
      | (.err .complete, _) =>
        let tr1 := Ev.fin :: tr
        match consume (script k) k with
        | some e => ⟨.err e, tr1.reverse⟩
        | none => ⟨.ok (), tr1.reverse⟩
      | (.err e, _) => ⟨.err (.inst e), tr.reverse⟩
      | (.panic s, _) => ⟨.panic s, tr.reverse⟩

/-- **C10 (the context is the delivered prefix).** Whenever the loop's tracker is the fold of `track` over the
instructions delivered so far, the loop equals the loop that *recomputes* its tracker from those instructions at every
step; so each width decision is a function of the instructions that precede the literal in this binary, and of
nothing else. -/
theorem parseLoop_eq_D (G : Tables) (script : Nat → Action) : ∀ (fuel : Nat) (τ : Tracker) (k idx : Nat) (d : DState)
    (tr : List Ev), trackAll G.tt (delivered tr) [] = some τ →
    parseLoop G script fuel τ k idx d tr = parseLoopD G script fuel k idx d tr := by
  intro fuel τ k idx d tr h
  -- branch by branch of `parseLoop`: `parseLoopD` finds the same tracker (`h`) and then meets the same outcomes
  fun_induction parseLoop G script fuel τ k idx d tr <;> rw [parseLoopD] <;> simp +zetaDelta only [*]
  case case4 ih => exact ih (by rw [delivered_inst, trackAll_snoc, h]; assumption)

/-- **C10 (whole parse).** From the header on, `parse` runs the tracker-free loop: no state other than the delivered
instructions of this very binary reaches a width decision. -/
theorem C10_parse_D (G : Tables) (script : Nat → Action) (bytes : List Nat) (h : Header) (d1 : DState)
    (h0 : consume (script 0) 0 = none) (h1 : consume (script 1) 1 = none)
    (hh : parseHeader G (DState.new bytes) = (.ok h, d1)) :
    parse G script bytes = parseLoopD G script (bytes.length + 1) 2 0 d1 [.header h, .init] := by
  rw [C10_fresh G script bytes h d1 h0 h1 hh]
  exact parseLoop_eq_D G script _ [] 2 0 d1 _ rfl

/-- **C10 (switch).** Each case of an `OpSwitch` — a literal followed by a target id — has its literal sized by the
tracked type of the *selector* (the instruction's first operand, an id reference), whatever the instruction's other
fields are: the literal's outcome is `parse_literal` at the selector, then one word for the target. -/
theorem C10_switch_uses_selector (G : Tables) (τ : Tracker) (idx sel : Nat) (a : Acc) (rest : List Operand) (d : DState)
    (hk : G.kPairLitId ≠ G.kIdResultType ∧ G.kPairLitId ≠ G.kIdResult ∧ G.kPairLitId ≠ G.kCtxNumber)
    (hops : a.ops = .w G.vIdRef sel :: rest) :
    (∀ lit d1 tgt d2, parseLiteral G τ idx sel d = (.ok lit, d1) → DState.word d1 = (.ok tgt, d2) →
      parseOne G τ idx G.opSwitch G.kPairLitId a d = (.ok { a with ops := a.ops ++ [lit, .w G.vIdRef tgt] }, d2)) ∧
    (∀ x d1, parseLiteral G τ idx sel d = (.err x, d1) →
      parseOne G τ idx G.opSwitch G.kPairLitId a d = (.err x, d1)) := by
  have h1 : (G.kPairLitId == G.kIdResultType) = false := by simpa using hk.1
  have h2 : (G.kPairLitId == G.kIdResult) = false := by simpa using hk.2.1
  have h3 : (G.kPairLitId == G.kCtxNumber) = false := by simpa using hk.2.2
  constructor
  · intro lit d1 tgt d2 hl hw; simp [parseOne, h1, h2, h3, hops, hl, hw]
  · intro x d1 hl; simp [parseOne, h1, h2, h3, hops, hl]

/-- non-vacuity: a prefix with an inert instruction in the middle; the 64-bit declaration survives it -/
example :
    let G : TTables := ⟨fun o => o == 21 || o == 22 || o == 19, 21, 22, 7⟩
    trackAll G [⟨21, none, some 1, [.w 7 64, .w 7 0]⟩, ⟨19, none, some 2, []⟩, ⟨248, none, some 3, []⟩] []
      = some [(1, .int 64 false)] ∧ inert G ⟨19, none, some 2, []⟩ = true ∧
    inert G ⟨21, none, some 1, [.w 7 64, .w 7 0]⟩ = false := by decide

end Rspirv.Props.C10
