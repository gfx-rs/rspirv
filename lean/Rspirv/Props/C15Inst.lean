import Rspirv.Model.Assemble
import Rspirv.Props.C15
/-!
# C15 — `Instruction::assemble_into` appends the instruction's own assembly, wherever it is placed

`impl Assemble for dr::Instruction` (binary/assemble.rs) is regenerated statement by statement as a small program
over the output buffer (`Generated.Traversals.asmInstruction`). `instInto` interprets that program on an arbitrary
buffer; the theorem says the result is the buffer followed by `assembleInst i` — the words the instruction has on
its own — for EVERY buffer content and length. This is what lets `Module.asm` be a `flatMap` of per-instruction
assemblies (C15_assemble): the assembly of an instruction does not depend on its position in the output.
-/
namespace Rspirv.Props.C15Inst
open Rspirv.Model

/-- the locals of the function body: the output vector, `start`, `end` -/
structure St where
  buf : List Nat
  start : Nat
  end_ : Nat

/-- one statement. `(6, sh)` is `result[start] |= (end as u32) << sh` on 32-bit words (`as u32` truncates, bits
shifted out are lost; an index beyond the buffer panics in Rust — here the buffer is left alone, and the theorem
below shows the program never gets there) -/
def stmt (i : Inst) (s : St) : Nat × Nat → St
  | (0, _) => { s with start := s.buf.length }
  | (1, _) => { s with buf := s.buf ++ [i.opcode] }
  | (2, _) => { s with buf := s.buf ++ i.rtype.toList }
  | (3, _) => { s with buf := s.buf ++ i.rid.toList }
  | (4, _) => { s with buf := s.buf ++ i.operands.flatMap encodeOperand }
  | (5, _) => { s with end_ := s.buf.length - s.start }
  | (6, sh) => { s with buf := s.buf.set s.start (s.buf.getD s.start 0 ||| (s.end_ % 4294967296 * 2 ^ sh % 4294967296)) }
  | _ => s

/-- `i.assemble_into(&mut buf)` -/
def instInto (prog : List (Nat × Nat)) (buf : List Nat) (i : Inst) : List Nat :=
  (prog.foldl (stmt i) ⟨buf, 0, 0⟩).buf

theorem prog_eq : Rspirv.Generated.Traversals.asmInstruction = [(0, 0), (1, 0), (2, 0), (3, 0), (4, 0), (5, 0), (6, 16)] := rfl

/-- **C15 (instruction level).** Assembling an instruction into a buffer appends exactly its stand-alone assembly:
the buffer's earlier content is untouched and the appended words do not depend on the buffer. -/
theorem C15_inst_into (buf : List Nat) (i : Inst) :
    instInto Rspirv.Generated.Traversals.asmInstruction buf i = buf ++ assembleInst i := by
  rw [prog_eq]
  simp only [instInto, List.foldl, stmt, assembleInst, List.append_assoc, List.cons_append, List.nil_append]
  generalize i.rtype.toList ++ (i.rid.toList ++ List.flatMap encodeOperand i.operands) = body
  -- the opcode word at `start = buf.length` is or-ed with the number of words pushed since, shifted into its high half
  simp

/-- the stand-alone entry point `assemble()` is the same on the empty buffer -/
theorem C15_inst_alone (i : Inst) : instInto Rspirv.Generated.Traversals.asmInstruction [] i = assembleInst i := by
  rw [C15_inst_into]; rfl

/-! ### `assemble_str`: the translated body appends `packStr`

`fn assemble_str(s: &str, result: &mut Vec<u32>)` is regenerated as six statements (`Generated.Traversals.asmStr`; chunk size and array
length are data). `strInto` interprets them — `chunks_exact(n)` / `remainder()`, a zeroed array, `copy_from_slice` of the remainder into
its front, `extend` with the little-endian word of each chunk, `push` of the last word — and the theorem identifies the result with the
buffer followed by the hand-written `packStr` that `encodeOperand` (C01, C02, C06) uses. -/

/-- `chunks_exact(4)`: the full four-byte chunks and the remainder (fewer than four bytes) -/
def chunks4 : List Nat → List (List Nat) × List Nat
  | b0 :: b1 :: b2 :: b3 :: t => match chunks4 t with
    | (cs, r) => ([b0, b1, b2, b3] :: cs, r)
  | r => ([], r)

structure SSt where
  chunks : List (List Nat)
  rem : List Nat
  last : List Nat
  buf : List Nat

def sstmt (bytes : List Nat) (s : SSt) : Nat × Nat → SSt
  | (0, n) => if n = 4 then { s with chunks := (chunks4 bytes).1 } else s
  | (1, _) => { s with rem := (chunks4 bytes).2 }
  | (2, n) => { s with last := List.replicate n 0 }
  | (3, _) => { s with last := s.rem ++ s.last.drop s.rem.length }
  | (4, _) => { s with buf := s.buf ++ s.chunks.map leWord }
  | (5, _) => { s with buf := s.buf ++ [leWord s.last] }
  | _ => s

/-- `assemble_str(s, &mut buf)` on the bytes of `s` -/
def strInto (prog : List (Nat × Nat)) (buf : List Nat) (bytes : List Nat) : List Nat :=
  (prog.foldl (sstmt bytes) ⟨[], [], [], buf⟩).buf

theorem strProg_eq : Rspirv.Generated.Traversals.asmStr = [(0, 4), (1, 0), (2, 4), (3, 0), (4, 0), (5, 0)] := rfl

theorem chunks4_pack (bytes : List Nat) :
    ((chunks4 bytes).1.map leWord ++ [leWord ((chunks4 bytes).2 ++ (List.replicate 4 0).drop (chunks4 bytes).2.length)]) = packStr bytes := by
  fun_induction packStr bytes with
  | case1 b0 b1 b2 b3 t ih => exact congrArg (leWord [b0, b1, b2, b3] :: ·) ih
  | case2 r hr =>
    rw [chunks4.eq_2 r hr]
    -- fewer than four bytes are left, and `leWord` reads a missing byte as the `0` it is padded with here
    rcases r with _ | ⟨a, _ | ⟨b, _ | ⟨c, _ | ⟨d, t⟩⟩⟩⟩
    case cons.cons.cons.cons => exact absurd rfl (hr a b c d t)
    all_goals rfl

/-- **`assemble_str` appends `packStr`**, whatever the buffer holds. -/
theorem C15_str_into (buf bytes : List Nat) :
    strInto Rspirv.Generated.Traversals.asmStr buf bytes = buf ++ packStr bytes := by
  rw [strProg_eq, ← chunks4_pack, ← List.append_assoc]
  -- the six statements, run
  rfl

example : strInto Rspirv.Generated.Traversals.asmStr [9] [97, 98, 99, 100, 101] = [9, 1684234849, 101] := by decide

/-! ### the containers: `Block`, `Function`, `Module` thread ONE output buffer through their parts

`assemble_into(&self, result: &mut Vec<u32>)` of a block, function or module hands the same vector to each part in turn
(`for x in .. { x.assemble_into(result) }`). `*.asmInto` below is that buffer-threading reading of the translated statement
orders; the theorems say it equals the buffer followed by the `flatMap` reading (`Module.asm`) that `C15_assemble` is
stated for — provided each instruction appends its own assembly, which `C15_inst_into` proves for the translated body. -/

section containers
variable {ι : Type}

theorem foldl_into (f : List Nat → ι → List Nat) (g : ι → List Nat) (h : ∀ buf x, f buf x = buf ++ g x)
    (xs : List ι) (buf : List Nat) : xs.foldl f buf = buf ++ xs.flatMap g := by
  induction xs generalizing buf with
  | nil => simp
  | cons x xs ih => simp [List.foldl_cons, ih, h, List.append_assoc]

def blockInto (ab : List Nat) (into : List Nat → ι → List Nat) (buf : List Nat) (b : Block ι) : List Nat :=
  ab.foldl (fun r p => (b.piece p).foldl into r) buf

def functionIntoPiece (ab : List Nat) (into : List Nat → ι → List Nat) (f : Function ι) (r : List Nat) : Nat → List Nat
  | 0 => f.def_.toList.foldl into r
  | 1 => f.params.foldl into r
  | 2 => f.blocks.foldl (blockInto ab into) r
  | 3 => f.end_.toList.foldl into r
  | _ => r

def functionInto (af ab : List Nat) (into : List Nat → ι → List Nat) (buf : List Nat) (f : Function ι) : List Nat :=
  af.foldl (functionIntoPiece ab into f) buf

/-- `result.extend([..fields..])` -/
def headerInto (ah : List Nat) (buf : List Nat) (h : Header) : List Nat := buf ++ ah.flatMap h.field

def moduleIntoPiece (ah go af ab : List Nat) (into : List Nat → ι → List Nat) (m : Module ι) (r : List Nat) : Nat → List Nat
  | 0 => match m.header with
    | some h => headerInto ah r h
    | none => r
  | 1 => (m.globalChain go).foldl into r
  | 2 => m.functions.foldl (functionInto af ab into) r
  | _ => r

/-- `Module::assemble_into(&self, result)` -/
def moduleInto (am ah go af ab : List Nat) (into : List Nat → ι → List Nat) (buf : List Nat) (m : Module ι) : List Nat :=
  am.foldl (moduleIntoPiece ah go af ab into m) buf

variable (into : List Nat → ι → List Nat) (asm : ι → List Nat) (h : ∀ buf x, into buf x = buf ++ asm x)
include h

theorem blockInto_eq (ab : List Nat) (buf : List Nat) (b : Block ι) : blockInto ab into buf b = buf ++ Block.asm ab asm b := by
  exact foldl_into _ _ (fun r p => foldl_into into asm h (b.piece p) r) ab buf

theorem functionInto_eq (af ab : List Nat) (buf : List Nat) (f : Function ι) :
    functionInto af ab into buf f = buf ++ Function.asm af ab asm f := by
  refine foldl_into _ _ (fun r p => ?_) af buf
  match p with
  | 0 => exact foldl_into into asm h _ r
  | 1 => exact foldl_into into asm h _ r
  | 2 => exact foldl_into _ _ (blockInto_eq into asm h ab) _ r
  | 3 => exact foldl_into into asm h _ r
  | _ + 4 => exact (List.append_nil r).symm

theorem moduleInto_eq (am ah go af ab : List Nat) (buf : List Nat) (m : Module ι) :
    moduleInto am ah go af ab into buf m = buf ++ Module.asm am ah go af ab asm m := by
  refine foldl_into _ _ (fun r p => ?_) am buf
  match p with
  | 0 =>
    simp only [moduleIntoPiece, Module.asmPiece]
    cases m.header with
    | none => exact (List.append_nil r).symm
    | some hd => rfl
  | 1 => exact foldl_into into asm h _ r
  | 2 => exact foldl_into _ _ (functionInto_eq into asm h af ab) _ r
  | _ + 3 => exact (List.append_nil r).symm

end containers

open Rspirv.Generated.Traversals in
/-- **C15 (module level, one shared buffer).** `Module::assemble_into` — the translated statement orders of the four container impls
threading one vector, with the translated body of `Instruction::assemble_into` at the leaves — leaves the buffer's earlier content
untouched and appends exactly the module's stand-alone assembly (`C15.assemble`, which `C15_assemble` shows to be the header words
followed by the assembly of each instruction visited by `all_inst_iter`). -/
theorem C15_module_into (buf : List Nat) (m : Module Inst) :
    moduleInto asmModule asmHeader globalIter asmFunction asmBlock (instInto asmInstruction) buf m =
      buf ++ Module.asm asmModule asmHeader globalIter asmFunction asmBlock assembleInst m :=
  moduleInto_eq _ _ C15_inst_into _ _ _ _ _ buf m

open Rspirv.Generated.Traversals in
/-- **C15, from the Rust text to the statement of the property.** What `Module::assemble_into` does — the translated bodies of the module,
function, block, header and instruction impls threading one output vector — is: leave the vector's earlier content alone and append the
header words followed by the assembly of each instruction visited by `all_inst_iter`, in that order. -/
theorem C15_full (buf : List Nat) (m : Module Inst) :
    moduleInto asmModule asmHeader globalIter asmFunction asmBlock (instInto asmInstruction) buf m =
      buf ++ ((m.header.map (Header.asm asmHeader)).getD [] ++ (Rspirv.Props.C15.allInstIter m).flatMap assembleInst) := by
  rw [C15_module_into]
  exact congrArg _ (Rspirv.Props.C15.C15_assemble assembleInst m)

example : instInto Rspirv.Generated.Traversals.asmInstruction [9, 9] ⟨1, some 5, some 6, [.w 0 7]⟩ = [9, 9, 262145, 5, 6, 7] := by
  decide

end Rspirv.Props.C15Inst
