import Rspirv.Props.C03Kind
import Rspirv.Props.C03Tables
import Rspirv.Props.C02TypedInst
/-! C03: acceptance, delivery, error position and kind (`C03.lean`, `C03Kind.lean`) together with the typing of
the delivered instructions (`C02TypedInst.delivered_typed`: result-type / result-id presence and operand kinds as the grammar
entry dictates) -/
