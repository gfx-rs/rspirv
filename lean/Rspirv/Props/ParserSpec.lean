import Rspirv.Props.C04
/-!
# The parser refines the grammar recogniser `Spec`

`View B eo d ws`: the decoder state `d` is inside an instruction whose remaining operand words are exactly `ws` (the limit is
`ws.length`, the words are in the buffer). Every parser routine started from such a state behaves as the corresponding
`Spec` function on `ws` — success with the same value and a state that views the remaining words, or no success at
all (`Refines`; it goes through sequencing, tests and functions of the value: `Refines.andThen`, `Refines.ite`,
`Refines.map`, and a routine's proof is a term of its shape over these). The second half does the same for `parse_inst`
from a state between instructions (`SView`: no limit set, the rest of the stream viewed; `parseInst_sview` and its three
arms, `parseInst_ref`). What the failing paths report is in `Props/ParserErr.lean`; consequences are drawn in
`Props/C03.lean` (acceptance = grammar), `Props/C02.lean` and at the end of `Props/C02TypedConv.lean` (`parseInst_words`).
-/
namespace Rspirv.Props.ParserSpec
open Rspirv Rspirv.Model Rspirv.Model.DState Rspirv.Props.C11 Rspirv.Props.C04

structure View (B : List Nat) (eo : Nat) (d : DState) (ws : List Nat) : Prop where
  bytes : d.bytes = B
  limit : d.limit = some ws.length
  stop : d.offset + 4 * ws.length = eo
  fits : eo ≤ B.length
  words : ∀ k, k < ws.length → le32 B (d.offset + 4 * k) = ws.getD k 0
  bytesOk : ∀ b ∈ B, b < 256
  -- a Rust slice: `Decoder::string` multiplies the limit by four and adds the offset in `usize`
  small : B.length < 2 ^ 63

variable {B : List Nat} {eo : Nat}

theorem View.avail {d : DState} {ws : List Nat} (h : View B eo d ws) : d.offset + 4 * ws.length ≤ d.bytes.length := by
  rw [h.bytes, h.stop]; exact h.fits

/-- the routine succeeds exactly when the specification does, with the same value, leaving a state that views the
specification's remaining words -/
def Refines {α β : Type} (B : List Nat) (eo : Nat) (r : PRes β α × DState) (s : Option (α × List Nat)) : Prop :=
  match s with
  | some (x, rest) => r.1 = .ok x ∧ View B eo r.2 rest
  | none => ∀ x, r.1 ≠ .ok x

theorem Refines.of_some {α β : Type} {r : PRes β α × DState} {x : α} {rest : List Nat}
    (h : Refines B eo r (some (x, rest))) : ∃ d', r = (.ok x, d') ∧ View B eo d' rest := by
  obtain ⟨r1, d1⟩ := r
  simp only [Refines] at h
  exact ⟨d1, by rw [h.1], h.2⟩

section Rules
variable {α β γ : Type} {r : PRes γ α × DState} {s : Option (α × List Nat)} {k : α → DState → PRes γ β × DState}
  {t : α × List Nat → Option (β × List Nat)}

theorem Refines.of_none (h : Refines B eo r none) : ∀ x d', r ≠ (.ok x, d') := by
  intro x d' e
  simp only [Refines] at h
  exact h x (by rw [e])

/-- refinement is compositional: `andThen` on the routine's side is `Option.bind` on the recogniser's -/
theorem Refines.andThen' (h : Refines B eo r s)
    (hk : ∀ x d rest, s = some (x, rest) → r = (.ok x, d) → View B eo d rest → Refines B eo (k x d) (t (x, rest))) :
    Refines B eo (andThen r k) (s.bind t) := by
  rcases s with _ | ⟨x, rest⟩
  · rcases r with ⟨_ | _ | _, d⟩
    · exact absurd rfl (h _)
    · intro x hx; cases hx
    · intro x hx; cases hx
  · obtain ⟨d', rfl, hv⟩ := h.of_some
    exact hk x d' rest rfl rfl hv

theorem Refines.andThen (h : Refines B eo r s)
    (hk : ∀ x d rest, View B eo d rest → Refines B eo (k x d) (t (x, rest))) : Refines B eo (andThen r k) (s.bind t) :=
  h.andThen' fun x d rest _ _ => hk x d rest

theorem Refines.ok {x : α} {d : DState} {rest : List Nat} (hv : View B eo d rest) :
    Refines (β := γ) B eo (.ok x, d) (some (x, rest)) := ⟨rfl, hv⟩

theorem Refines.err {e : γ} {d : DState} : Refines (α := α) B eo (.err e, d) Option.none := by
  intro x h; cases h

theorem Refines.panic {s : String} {d : DState} : Refines (α := α) (β := γ) B eo (.panic s, d) Option.none := by
  intro x h; cases h

/-- … a function of the value on the routine's side is the same function on the recogniser's -/
theorem Refines.map {f : α → β} (h : Refines B eo r s) :
    Refines B eo (Model.andThen r fun a d => (.ok (f a), d)) (s.bind fun p => some (f p.1, p.2)) :=
  h.andThen fun _ _ _ hv => Refines.ok hv

/-- … and a test on the routine's side the same test on the recogniser's -/
theorem Refines.ite {c : Prop} [Decidable c] {r' : PRes γ α × DState} {s' : Option (α × List Nat)}
    (h : Refines B eo r s) (h' : Refines B eo r' s') : Refines B eo (if c then r else r') (if c then s else s') := by
  split <;> assumption

end Rules

theorem View.inv {d : DState} {ws : List Nat} (h : View B eo d ws) : C11.Inv d :=
  Nat.le_trans (Nat.le_add_right _ _) h.avail

theorem View.isSmall {d : DState} {ws : List Nat} (h : View B eo d ws) : Small d := by
  unfold Small; rw [h.bytes]; exact h.small

/-! ### the words at an offset -/

theorem words_drop {bytes ws : List Nat} {o : Nat} (h : ∀ k, k < ws.length → le32 bytes (o + 4 * k) = ws.getD k 0)
    (n : Nat) {o' : Nat} (ho : o' = o + 4 * n) :
    ∀ k, k < (ws.drop n).length → le32 bytes (o' + 4 * k) = (ws.drop n).getD k 0 := by
  intro k hk
  rw [List.length_drop] at hk
  rw [List.getD_eq_getElem?_getD, List.getElem?_drop, ← List.getD_eq_getElem?_getD, ← h (n + k) (Nat.add_lt_of_lt_sub' hk), ho,
    Nat.mul_add, Nat.add_assoc]

theorem words_take {bytes ws : List Nat} {o : Nat} (h : ∀ k, k < ws.length → le32 bytes (o + 4 * k) = ws.getD k 0)
    (n : Nat) : ∀ k, k < (ws.take n).length → le32 bytes (o + 4 * k) = (ws.take n).getD k 0 := by
  intro k hk
  rw [List.length_take] at hk
  rw [List.getD_eq_getElem?_getD, List.getElem?_take, if_pos (Nat.lt_min.1 hk).1, ← List.getD_eq_getElem?_getD]
  exact h k (Nat.lt_min.1 hk).2

/-! ### a view after some of its words are read -/

theorem View.adv {d d' : DState} {ws : List Nat} {c : Nat} (hv : View B eo d ws) (a : Adv c d d') :
    View B eo d' (ws.drop c) := by
  have hc := a.within _ hv.limit
  have hst := hv.stop
  refine ⟨a.bytes.trans hv.bytes, ?_, ?_, hv.fits, words_drop hv.words c a.offset, hv.bytesOk, hv.small⟩
  · rw [a.limit, hv.limit, List.length_drop]; rfl
  · rw [a.offset, List.length_drop]; omega

theorem word_cons (d : DState) (w : Nat) (t : List Nat) (hv : View B eo d (w :: t)) :
    ∃ d', word d = (.ok w, d') ∧ View B eo d' t := by
  have ha := hv.avail
  cases hv.bytes
  have h0 : le32 d.bytes d.offset = w := hv.words 0 (Nat.zero_lt_succ _)
  have hw := word_of_fits (d := d) (by rw [hv.limit]; nofun) (by rw [List.length_cons] at ha; omega)
  exact ⟨_, h0 ▸ hw, hv.adv (word_ok hw).2⟩

theorem word_nil (d : DState) (hv : View B eo d []) : ∀ v d', word d ≠ (.ok v, d') :=
  fun _ _ h => absurd ((word_ok h).2.within 0 hv.limit) nofun

/-! ### bytes of a view -/

theorem le32_bytes (b0 b1 b2 b3 : Nat) (h0 : b0 < 256) (h1 : b1 < 256) (h2 : b2 < 256) (h3 : b3 < 256) :
    Spec.wordBytes (b0 + 256 * b1 + 65536 * b2 + 16777216 * b3) = [b0, b1, b2, b3] := by
  simp only [Spec.wordBytes, List.cons.injEq, and_true]
  omega

theorem view_bytes (ws bytes : List Nat) (off : Nat) (ha : off + 4 * ws.length ≤ bytes.length)
    (hw : ∀ k, k < ws.length → le32 bytes (off + 4 * k) = ws.getD k 0) (hb : ∀ b ∈ bytes, b < 256) :
    (bytes.drop off).take (4 * ws.length) = ws.flatMap Spec.wordBytes := by
  induction ws generalizing off with
  | nil => simp
  | cons w t ih =>
    rw [List.length_cons] at ha
    -- the first word is the next four bytes of the buffer; the others are the induction hypothesis four bytes on
    obtain ⟨i0, i1, i2, i3⟩ :
      off < bytes.length ∧ off + 1 < bytes.length ∧ off + 2 < bytes.length ∧ off + 3 < bytes.length := by omega
    have hwb : Spec.wordBytes w = [bytes[off], bytes[off + 1], bytes[off + 2], bytes[off + 3]] := by
      rw [← show le32 bytes off = w from hw 0 (Nat.zero_lt_succ _)]
      simp only [le32, List.getD_eq_getElem?_getD, List.getElem?_eq_getElem, i0, i1, i2, i3, Option.getD_some]
      exact le32_bytes _ _ _ _ (hb _ (List.getElem_mem i0)) (hb _ (List.getElem_mem i1)) (hb _ (List.getElem_mem i2))
        (hb _ (List.getElem_mem i3))
    rw [List.drop_eq_getElem_cons i0, List.drop_eq_getElem_cons i1, List.drop_eq_getElem_cons i2, List.drop_eq_getElem_cons i3,
      List.flatMap_cons, hwb, ← ih (off + 4) (by omega) (words_drop hw 1 rfl), List.length_cons, Nat.mul_succ]
    rfl

/-! ### strings -/

/-- `Decoder::string` from a view is the specification's `str` on the viewed words -/
theorem string_view (d : DState) (ws : List Nat) (hv : View B eo d ws) :
    match Spec.str ws with
    | some (bs, rest) => ∃ d', DState.string d = (.ok bs, d') ∧ View B eo d' rest
    | none => ∀ bs d', DState.string d ≠ (.ok bs, d') := by
  have ha := hv.avail
  cases hv.bytes
  have hs := hv.small
  have hvb := view_bytes ws d.bytes d.offset ha hv.words hv.bytesOk
  have hBl : (ws.flatMap Spec.wordBytes).length = 4 * ws.length := by
    rw [← hvb, List.length_take, List.length_drop]; exact Nat.min_eq_left (Nat.le_sub_of_add_le' ha)
  -- the bytes the decoder searches are the bytes of the viewed words
  have hB : strSlice d = ws.flatMap Spec.wordBytes := by
    rw [← hvb, strSlice, hv.limit]
    congr 1
    simp only [strWindow, usizeMax]
    omega
  rw [string_eq, hB]
  unfold Spec.str
  generalize ws.flatMap Spec.wordBytes = W at hBl ⊢
  rcases hf : W.findIdx? (· == 0) with _ | nul
  · exact fun bs d' h => nomatch h
  have hnl := (List.findIdx?_eq_some_iff_getElem.1 hf).1
  have hum : usizeMax = 2 ^ 64 - 1 := rfl
  -- the NUL lies in a whole word of the view, and the view in a Rust slice: no overflow, no short read
  have c2 : ¬ W.length < (nul / 4 + 1) * 4 := by omega
  have c4 : ¬ d.offset + (nul / 4 + 1) * 4 > usizeMax := by omega
  dsimp only
  rw [if_neg fun h => c4 (Nat.lt_of_lt_of_le h (Nat.le_add_left _ _)), if_neg c2, if_neg c4]
  cases validUtf8 (W.take nul)
  · exact fun bs d' h => nomatch h
  · exact ⟨_, rfl, hv.adv ⟨rfl, Nat.mul_comm _ _ ▸ rfl, rfl, by omega, fun l hl => by rw [hv.limit] at hl; cases hl; omega⟩⟩

/-! ### decoder requests -/

theorem req_ok {α : Type} {r : Res α × DState} {x : α} {d' : DState} (h : r = (.ok x, d')) : req r = (.ok x, d') := by
  rw [h]; rfl

theorem req_ne_ok {α : Type} {r : Res α × DState} (h : ∀ x d', r ≠ (.ok x, d')) : ∀ x, (req r).1 ≠ .ok x := by
  rcases r with ⟨x | _ | _, d'⟩
  · exact absurd rfl (h x d')
  · intro x hx; cases hx
  · intro x hx; cases hx

theorem word_ref {d : DState} {ws : List Nat} (hv : View B eo d ws) : Refines B eo (req (word d)) (Spec.word1 ws) := by
  rcases ws with _ | ⟨w, t⟩
  · exact req_ne_ok (word_nil d hv)
  · obtain ⟨d', hw, hv'⟩ := word_cons d w t hv
    rw [req_ok hw]
    exact Refines.ok hv'

theorem string_ref {d : DState} {ws : List Nat} (hv : View B eo d ws) : Refines B eo (req (DState.string d)) (Spec.str ws) := by
  have hs := string_view d ws hv
  generalize Spec.str ws = s at hs ⊢
  rcases s with _ | ⟨bs, rest⟩
  · exact req_ne_ok hs
  · obtain ⟨d', hd, hv'⟩ := hs
    rw [req_ok hd]
    exact Refines.ok hv'

theorem typedReq_ref {f : Nat → Option Nat} {site : String} {ev : Nat} {d : DState} {ws : List Nat} (hv : View B eo d ws) :
    Refines B eo (req (typedReq f site ev d)) (Spec.req1 f ws) := by
  rcases ws with _ | ⟨w, t⟩
  · refine req_ne_ok fun v d' h => ?_
    rcases typedReq_cases f site ev d with ⟨w, _, d1, hw, _, _⟩ | ⟨_, _, _, _, h'⟩ | ⟨_, _, _, h'⟩
    · exact word_nil d hv w d1 hw
    · rw [h'] at h; cases h
    · rw [h'] at h; cases h
  · obtain ⟨d1, hw, hv1⟩ := word_cons d w t hv
    simp only [Spec.req1, Spec.word1, Option.bind_some]
    rcases typedReq_cases f site ev d with ⟨_, v, _, hw', hf, h'⟩ | ⟨_, _, hw', hf, h'⟩ | ⟨_, _, hw', _⟩ <;> rw [hw] at hw' <;>
      cases hw' <;> rw [h', hf]
    · exact Refines.ok hv1
    · exact Refines.err

theorem enum_ref {E : EnumSpec} {ev : Nat} {d : DState} {ws : List Nat} (hv : View B eo d ws) :
    Refines B eo (req (DState.enum E ev d)) (Spec.req1 E.fromU32 ws) := enum_eq E ev d ▸ typedReq_ref hv

theorem mask_ref {M : MaskSpec} {ev : Nat} {d : DState} {ws : List Nat} (hv : View B eo d ws) :
    Refines B eo (req (DState.mask M ev d)) (Spec.req1 M.fromBits ws) := mask_eq M ev d ▸ typedReq_ref hv

/-! ### elements -/

theorem decodeElem_ref (G : Tables) (e : Elem) (d : DState) (ws : List Nat) (hv : View B eo d ws) :
    Refines B eo (decodeElem G e d) (Spec.elem G e ws) := by
  rw [decodeElem_eq, Spec.elem_eq]
  refine Refines.ite ?_ (Refines.ite ?_ (Refines.ite (word_ref hv).map (string_ref hv).map))
  · rcases G.enums[e.ix]? with _ | E
    · exact Refines.panic
    · exact (enum_ref hv).map
  · rcases G.masks[e.ix]? with _ | M
    · exact Refines.panic
    · exact (mask_ref hv).map

theorem decodeElems_ref (G : Tables) : ∀ (es : List Elem) (d : DState) (ws : List Nat), View B eo d ws →
    Refines B eo (decodeElems G es d) (Spec.elems G es ws)
  | [], d, ws, hv => Refines.ok hv
  | e :: es, d, ws, hv => by
    rw [decodeElems_cons, Spec.elems_cons]
    exact (decodeElem_ref G e d ws hv).andThen fun o d1 t hv1 => (decodeElems_ref G es d1 t hv1).map

/-! ### logical operands -/

theorem withParams_ref {G : Tables} {e : Elem} {sel : Nat → List Elem} {d : DState} {ws : List Nat} (hv : View B eo d ws) :
    Refines B eo (withParams G e sel d) (Spec.withParams G e sel ws) :=
  (decodeElem_ref G e d ws hv).andThen fun v d1 t hv1 => (decodeElems_ref G (sel v.num) d1 t hv1).map

theorem parseOperand_ref (G : Tables) (k : Nat) (d : DState) (ws : List Nat) (hv : View B eo d ws) :
    Refines B eo (parseOperand G k d) (Spec.operand G k ws) := by
  rw [parseOperand_eq, Spec.operand_eq]
  rcases G.kindActs[k]? with _ | es | ⟨e, rows⟩ | ⟨e, rows⟩ | _
  · exact Refines.panic
  · exact decodeElems_ref G es d ws hv
  · exact withParams_ref hv
  · exact withParams_ref hv
  · exact Refines.panic

/-! ### literals -/

theorem le32_lt (bytes : List Nat) (hb : ∀ b ∈ bytes, b < 256) (o : Nat) : le32 bytes o < 4294967296 := by
  have g : ∀ k, bytes.getD k 0 < 256 := by
    intro k
    rw [List.getD_eq_getElem?_getD]
    cases hk : bytes[k]? with
    | none => simp
    | some x => simpa using hb x (List.mem_of_getElem? hk)
  have := g o; have := g (o + 1); have := g (o + 2); have := g (o + 3)
  unfold le32
  omega

theorem view_word_lt {d : DState} {ws : List Nat} (hv : View B eo d ws) (k : Nat) (hk : k < ws.length) :
    ws.getD k 0 < 4294967296 := by
  rw [← hv.words k hk]
  exact le32_lt B hv.bytesOk _

theorem litOne_ref {G : Tables} {d : DState} {ws : List Nat} (hv : View B eo d ws) :
    Refines B eo (litOne G d) (Spec.lit1 G ws) := by
  rw [litOne_eq, Spec.lit1_eq]
  exact (word_ref hv).map

theorem litTwo_ref {d : DState} {ws : List Nat} (hv : View B eo d ws) :
    Refines B eo (litTwo d) (Spec.lit2 ws) := by
  rw [litTwo_eq, Spec.lit2_eq]
  refine Refines.andThen' (word_ref hv) fun lo d1 t hs _ hv1 =>
    Refines.andThen' (word_ref hv1) fun hi d2 t' hs' _ hv2 => ?_
  -- the recogniser reduces each word modulo 2^32; the words of a view are below it
  rcases ws with _ | ⟨_, _ | ⟨_, _⟩⟩ <;> cases hs <;> cases hs'
  have hlo := view_word_lt hv 0 (by simp)
  have hhi := view_word_lt hv 1 (by simp)
  simp only [List.getD_eq_getElem?_getD, List.getElem?_cons_zero, List.getElem?_cons_succ, Option.getD_some] at hlo hhi
  rw [Nat.mod_eq_of_lt hlo, Nat.mod_eq_of_lt hhi]
  exact Refines.ok hv2

theorem parseLiteral_ref (G : Tables) (τ : Tracker) (idx ty : Nat) (d : DState) (ws : List Nat) (hv : View B eo d ws) :
    Refines B eo (parseLiteral G τ idx ty d) (Spec.literal G τ ty ws) := by
  rcases C10.literal_cases G τ idx ty with ⟨_, h, h'⟩ | ⟨_, h, h'⟩ | ⟨_, h, h'⟩ <;> rw [h, h']
  · exact litOne_ref hv
  · exact litTwo_ref hv
  · exact Refines.err

/-! ### OpSpecConstantOp -/

theorem view_limitReached {d : DState} {ws : List Nat} (hv : View B eo d ws) : d.limitReached = ws.isEmpty := by
  unfold DState.limitReached
  rw [hv.limit]
  cases ws <;> simp

theorem operand_shrinks {G : Tables} {k : Nat} (hk : kindOk G k = true) {d d1 : DState} {ws t : List Nat} {os : List Operand}
    (hv : View B eo d ws) (hr : parseOperand G k d = (.ok os, d1)) (hv1 : View B eo d1 t) : t.length < ws.length := by
  obtain ⟨_, pr, _⟩ := parseOperand_safe G k d hv.inv hv.isSmall hk
  rw [hr] at pr
  have hp : d.offset + 4 ≤ d1.offset := pr os rfl
  have := hv.stop
  have := hv1.stop
  omega

theorem parseMany_ref (G : Tables) (k : Nat) (hk : kindOk G k = true) : ∀ (n fuel fuel' : Nat) (d : DState) (ws : List Nat),
    ws.length ≤ n → n < fuel → n < fuel' → View B eo d ws →
    Refines B eo (parseMany G k fuel d) ((Spec.many G k fuel' ws).map (fun os => (os, [])))
  | n, 0, _, _, _, _, h, _, _ => absurd h (Nat.not_lt_zero _)
  | n, _ + 1, 0, _, _, _, _, h, _ => absurd h (Nat.not_lt_zero _)
  | n, f + 1, f' + 1, d, ws, hn, hf, hf', hv => by
    rw [parseMany_succ, Spec.many_succ, view_limitReached hv]
    split
    · exact Refines.ok (List.isEmpty_iff.1 ‹_› ▸ hv)
    · rw [Option.map_bind]
      refine Refines.andThen' (parseOperand_ref G k d ws hv) fun os d1 t _ hr hv1 => ?_
      have hlt := operand_shrinks hk hv hr hv1
      have ih := (parseMany_ref G k hk (n - 1) f f' d1 t (by omega) (by omega) (by omega) hv1).map (f := (os ++ ·))
      simp only [Function.comp_apply]
      generalize Spec.many G k f' t = m at ih ⊢
      cases m <;> exact ih

theorem nestedHere_ref (G : Tables) (k q : Nat) (hk : kindOk G k = true) (d : DState) (ws : List Nat) (hv : View B eo d ws) :
    Refines B eo (nestedHere G k q d) (Spec.nestedHere G k q ws) := by
  unfold nestedHere Spec.nestedHere
  rw [view_limitReached hv, hv.limit]
  exact Refines.ite (parseOperand_ref G k d ws hv) (Refines.ite (Refines.ite (Refines.ok hv) (parseOperand_ref G k d ws hv))
    (parseMany_ref G k hk ws.length _ _ d ws (Nat.le_refl _) (Nat.lt_succ_self _) (Nat.lt_succ_self _) hv))

theorem parseNested_ref (G : Tables) : ∀ (ops : List (Nat × Nat)) (d : DState) (ws : List Nat),
    nestedOk G ops = true → View B eo d ws → Refines B eo (parseNested G ops d) (Spec.nested G ops ws)
  | [], d, ws, _, hv => Refines.ok hv
  | (k, q) :: rest, d, ws, hok, hv => by
    simp only [nestedOk, List.all_cons, Bool.and_eq_true] at hok
    rw [parseNested_cons, Spec.nested_cons]
    cases hres : k == G.kIdResultType || k == G.kIdResult
    case true => exact parseNested_ref G rest d ws hok.2 hv
    rw [hres, Bool.false_or] at hok
    exact (nestedHere_ref G k q hok.1 d ws hv).andThen fun os d1 t hv1 =>
      (parseNested_ref G rest d1 t hok.2 hv1).map

theorem parseSpecConstantOp_ref (G : Tables) (hc : coreKindsOk G = true) (idx : Nat) (d : DState) (ws : List Nat)
    (hv : View B eo d ws) : Refines B eo (parseSpecConstantOp G idx d) (Spec.specOp G ws) := by
  rw [parseSpecConstantOp_eq, Spec.specOp_eq]
  refine (word_ref hv).andThen fun number d1 t hv1 => ?_
  cases he : specOpEntry G number with
  | none => exact Refines.err
  | some e =>
    exact (parseNested_ref G e.ops d1 t (specOpEntry_nestedOk G hc number e he) hv1).map

/-! ### `parse_operands` -/

theorem parseOne_ref (G : Tables) (hc : coreKindsOk G = true) (τ : Tracker) (idx opcode k : Nat) (a : Acc) (d : DState)
    (ws : List Nat) (hv : View B eo d ws) :
    Refines B eo (parseOne G τ idx opcode k a d) (Spec.one G τ opcode k a ws) := by
  rw [parseOne_eq, Spec.one_eq]
  cases oneKind G k
  · exact (word_ref hv).map
  · exact (word_ref hv).map
  · refine Refines.ite Refines.panic ?_
    rcases a.rtype with _ | ty
    · exact Refines.panic
    · exact (parseLiteral_ref G τ idx ty d ws hv).map
  · refine Refines.ite Refines.panic ?_
    rcases a.ops with _ | ⟨⟨v, sel⟩ | _ | _, _⟩ <;> try exact Refines.panic
    exact Refines.ite Refines.panic
      ((parseLiteral_ref G τ idx sel d ws hv).andThen fun lit d1 t hv1 => (word_ref hv1).map)
  · exact (parseSpecConstantOp_ref G hc idx d ws hv).map
  · exact (parseOperand_ref G k d ws hv).map

/-- the operand loop, fuel for fuel -/
theorem loop_ref (G : Tables) (hc : coreKindsOk G = true) (τ : Tracker) (idx opcode : Nat) :
    ∀ (fuel : Nat) (ops : List (Nat × Nat)) (a : Acc) (d : DState) (ws : List Nat), View B eo d ws →
    Refines B eo (parseOperandsLoop G τ idx opcode fuel ops a d) (Spec.loop G τ opcode fuel ops a ws)
  | 0, _, _, _, _, _ => Refines.panic
  | fuel + 1, [], a, d, ws, hv => Refines.ok hv
  | fuel + 1, (k, q) :: rest, a, d, ws, hv => by
    rw [parseOperandsLoop_cons, Spec.loop_cons, view_limitReached hv]
    exact Refines.ite
      ((parseOne_ref G hc τ idx opcode k a d ws hv).andThen fun a1 d1 t hv1 => loop_ref G hc τ idx opcode fuel _ a1 d1 t hv1)
      (Refines.ite Refines.err (Refines.ok hv))

/-! ### one instruction of the stream -/

/-- the decoder is between instructions: no limit, and `ws` are all the whole words from the offset to the end -/
structure SView (B : List Nat) (d : DState) (ws : List Nat) : Prop where
  bytes : d.bytes = B
  limit : d.limit = none
  fits : d.offset + 4 * ws.length ≤ B.length
  tail : B.length < d.offset + 4 * ws.length + 4
  words : ∀ k, k < ws.length → le32 B (d.offset + 4 * k) = ws.getD k 0
  bytesOk : ∀ b ∈ B, b < 256
  small : B.length < 2 ^ 63

theorem SView.inv {d : DState} {ws : List Nat} (h : SView B d ws) : C11.Inv d := by
  rw [C11.Inv, h.bytes]; exact Nat.le_trans (Nat.le_add_right _ _) h.fits

theorem SView.isSmall {d : DState} {ws : List Nat} (h : SView B d ws) : Small d := by
  unfold Small; rw [h.bytes]; exact h.small

theorem sview_word {d : DState} {w0 : Nat} {t : List Nat} (hv : SView B d (w0 :: t)) :
    word d = (.ok w0, { d with offset := d.offset + 4 }) := by
  have hfits := hv.fits
  have h0 : le32 B d.offset = w0 := hv.words 0 (Nat.zero_lt_succ _)
  rw [word_unlimited hv.limit (by rw [hv.bytes, List.length_cons] at *; omega), hv.bytes, h0]

/-- the state in which `parse_inst` reads the operands of an instruction of `wc` words that starts at `d` -/
def inside (d : DState) (wc : Nat) : DState := DState.setLimit (wc - 1) { d with offset := d.offset + 4 }

/-- its limit ends where the declared extent of the instruction does -/
theorem inside_end {wc : Nat} (h : wc ≠ 0) (o : Nat) : o + 4 + 4 * (wc - 1) = o + 4 * wc := by
  rw [Nat.add_assoc, Nat.add_comm 4, ← Nat.mul_add_one, Nat.sub_add_cancel (Nat.pos_of_ne_zero h)]

/-- `parse_inst` from a state between instructions, its first word read -/
theorem parseInst_sview (G : Tables) (τ : Tracker) (idx : Nat) {d : DState} {w0 : Nat} {t : List Nat}
    (hv : SView B d (w0 :: t)) :
    parseInst G τ idx d =
      if w0 / 65536 == 0 then (.err (.wordCountZero d.offset idx), { d with offset := d.offset + 4 }) else
      match lookupOpcode G.core (w0 % 65536) with
      | some e =>
        andThen (parseOperandsLoop G τ idx e.opcode (w0 / 65536 + e.ops.length + 1) e.ops ⟨none, none, []⟩
            (inside d (w0 / 65536))) fun a d3 =>
          if !d3.limitReached then (.err (.operandExceeded d3.offset idx), d3)
          else (.ok ⟨e.opcode, a.rtype, a.rid, a.ops⟩, d3.clearLimit)
      | none => (.err (.opcodeUnknown d.offset idx (w0 % 65536)), { d with offset := d.offset + 4 }) := by
  rw [parseInst_eq, sview_word hv]
  simp only [Nat.add_sub_cancel, inside]
  rfl

/-- the three arms of `parseInst_sview`: a zero word count and an opcode the table does not know are reported from behind the
first word; otherwise the operand loop of the opcode's entry runs inside the instruction -/
theorem parseInst_wc0 (G : Tables) (τ : Tracker) (idx : Nat) {d : DState} {w0 : Nat} {t : List Nat}
    (hv : SView B d (w0 :: t)) (h : w0 / 65536 = 0) :
    parseInst G τ idx d = (.err (.wordCountZero d.offset idx), { d with offset := d.offset + 4 }) := by
  rw [parseInst_sview G τ idx hv, if_pos (by simpa using h)]

theorem parseInst_unknown (G : Tables) (τ : Tracker) (idx : Nat) {d : DState} {w0 : Nat} {t : List Nat}
    (hv : SView B d (w0 :: t)) (h : w0 / 65536 ≠ 0) (hl : lookupOpcode G.core (w0 % 65536) = none) :
    parseInst G τ idx d = (.err (.opcodeUnknown d.offset idx (w0 % 65536)), { d with offset := d.offset + 4 }) := by
  rw [parseInst_sview G τ idx hv, if_neg (by simpa using h), hl]

theorem parseInst_known (G : Tables) (τ : Tracker) (idx : Nat) {d : DState} {w0 : Nat} {t : List Nat}
    (hv : SView B d (w0 :: t)) (h : w0 / 65536 ≠ 0) {e : Entry} (hl : lookupOpcode G.core (w0 % 65536) = some e) :
    parseInst G τ idx d =
      andThen (parseOperandsLoop G τ idx e.opcode (w0 / 65536 + e.ops.length + 1) e.ops ⟨none, none, []⟩
          (inside d (w0 / 65536))) fun a d3 =>
        if !d3.limitReached then (.err (.operandExceeded d3.offset idx), d3)
        else (.ok ⟨e.opcode, a.rtype, a.rid, a.ops⟩, d3.clearLimit) := by
  rw [parseInst_sview G τ idx hv, if_neg (by simpa using h), hl]

theorem SView.inside_inv {d : DState} {w0 : Nat} {t : List Nat} (hv : SView B d (w0 :: t)) (wc : Nat) :
    C11.Inv (inside d wc) := by
  have := hv.fits
  simp only [List.length_cons] at this
  unfold C11.Inv inside DState.setLimit; simp only; rw [hv.bytes]; omega

/-- inside an instruction whose declared extent lies in the stream the decoder views its operand words -/
theorem SView.enter {d : DState} {w0 : Nat} {t : List Nat} (hv : SView B d (w0 :: t)) {wc : Nat} (hfit : wc - 1 ≤ t.length) :
    View B (d.offset + 4 + 4 * (wc - 1)) (inside d wc) (t.take (wc - 1)) := by
  have hlen := List.length_take_of_le hfit
  have hfits := hv.fits
  rw [List.length_cons] at hfits
  exact ⟨hv.bytes, congrArg some hlen.symm, by rw [hlen]; rfl, by omega, words_take (words_drop hv.words 1 rfl) _, hv.bytesOk,
    hv.small⟩

/-- with all operand words consumed the decoder is between instructions again -/
theorem SView.leave {d d3 : DState} {w0 : Nat} {t : List Nat} (hv : SView B d (w0 :: t)) {wc : Nat}
    (hfit : wc - 1 ≤ t.length) (hv3 : View B (d.offset + 4 + 4 * (wc - 1)) d3 []) :
    SView B d3.clearLimit (t.drop (wc - 1)) := by
  have hst : d3.offset = d.offset + 4 + 4 * (wc - 1) := hv3.stop
  -- the words left are those of `d` from `d3` on: `fits` and `tail` speak of the same end
  have he : d3.clearLimit.offset + 4 * (t.drop (wc - 1)).length = d.offset + 4 * (w0 :: t).length := by
    rw [List.length_drop, List.length_cons]; show d3.offset + _ = _; omega
  exact ⟨hv3.bytes, rfl, he ▸ hv.fits, he ▸ hv.tail, words_drop (words_drop hv.words 1 rfl) (wc - 1) hst, hv.bytesOk,
    hv.small⟩

/-- **the parser refines the grammar, one instruction.** From a state between instructions, for an instruction whose
declared extent lies inside the stream: `parse_inst` succeeds iff the recogniser accepts, with the same instruction,
and ends between instructions in front of the recogniser's remaining words. -/
theorem parseInst_ref (G : Tables) (hc : coreKindsOk G = true) (τ : Tracker) (idx : Nat) (d : DState) (w0 : Nat)
    (t : List Nat) (hv : SView B d (w0 :: t)) (hfit : w0 / 65536 - 1 ≤ t.length) :
    match Spec.inst G τ (w0 :: t) with
    | some (i, rest) => ∃ d', parseInst G τ idx d = (.ok i, d') ∧ SView B d' rest
    | none => ∀ i d', parseInst G τ idx d ≠ (.ok i, d') := by
  rw [parseInst_sview G τ idx hv]
  unfold Spec.inst
  dsimp only
  cases w0 / 65536 == 0
  case true => exact fun i d' h => nomatch h
  rcases lookupOpcode G.core (w0 % 65536) with _ | ent
  · exact fun i d' h => nomatch h
  have hl := loop_ref G hc τ idx ent.opcode (w0 / 65536 + ent.ops.length + 1) ent.ops ⟨none, none, []⟩ _ _ (hv.enter hfit)
  dsimp only
  rw [if_neg (Nat.not_lt.2 hfit)]
  rcases hs : Spec.loop G τ ent.opcode _ ent.ops _ _ with _ | ⟨a, rest⟩ <;> rw [hs] at hl
  · intro i d' hx
    obtain ⟨a, d3, hr, _⟩ := andThen_eq_ok.1 hx
    exact hl.of_none a d3 hr
  obtain ⟨d3, hr, hv3⟩ := hl.of_some
  rw [hr, andThen_ok, view_limitReached hv3]
  rcases rest with _ | ⟨x, xs⟩
  · exact ⟨_, rfl, hv.leave hfit hv3⟩
  · exact fun i d' h => nomatch h

end Rspirv.Props.ParserSpec
