import Rspirv.Props.C03
import Rspirv.Props.C04Tables
/-!
# C03 at the tables regenerated from the working tree, and the recogniser on concrete words
-/
namespace Rspirv.Props.C03
open Rspirv Rspirv.Model Rspirv.Model.DState Rspirv.Props.C11 Rspirv.Props.C04 Rspirv.Props.ParserSpec Rspirv.Props.ParserErr

open Rspirv.Instances in
/-- the theorem at the tables regenerated from the working tree -/
theorem C03 (bytes : List Nat) (hb : ∀ b ∈ bytes, b < 256) (hs : bytes.length < 2 ^ 63) (h20 : 20 ≤ bytes.length)
    (hmagic : le32 bytes 0 = theTables.magic) :
    ((parse theTables (fun _ => .continue_) bytes).result = .ok () ↔
      (Spec.insts theTables (bytes.length + 1) [] (Spec.streamWords bytes)).2 = []) :=
  (C03_accept theTables tables_safe bytes hb hs h20 hmagic).1

/-! ### non-vacuity: the recogniser on concrete words (kernel evaluation over the regenerated tables) -/

open Rspirv.Instances in
/-- `OpCapability Shader` = words `0x00020011, 1` -/
example : Spec.inst theTables [] [0x00020011, 1, 77] = some (⟨17, none, none, [.w Rspirv.Generated.Operands.v_Capability 1]⟩, [77]) := by
  decide +kernel

open Rspirv.Instances in
/-- `OpName %5 "ab"`: a string operand (NUL-terminated, zero padded) -/
example : Spec.inst theTables [] [0x00030005, 5, 0x00006261] =
    some (⟨5, none, none, [.w Rspirv.Generated.Operands.v_IdRef 5, .s [0x61, 0x62]]⟩, []) := by
  decide +kernel

open Rspirv.Instances in
/-- an unknown enumerant, a missing operand and a surplus operand are rejected -/
example : Spec.inst theTables [] [0x00020011, 0xffffffff] = none ∧ Spec.inst theTables [] [0x00010011] = none ∧
    Spec.inst theTables [] [0x00030011, 1, 2] = none := by
  decide +kernel

open Rspirv.Instances in
/-- a 64-bit literal under a tracked 64-bit integer type: low word first -/
example : Spec.inst theTables [(1, .int 64 false)] [0x0005002b, 1, 2, 7, 9] =
    some (⟨43, some 1, some 2, [.q (9 * 4294967296 + 7)]⟩, []) := by
  decide +kernel

end Rspirv.Props.C03
