import Rspirv.Props.BuilderStep
import Rspirv.Props.LoaderStep
/-!
# C12 — Builder calls never panic, failed calls change nothing, structure is enforced

Statements about `Rspirv.Model.BState.step` (tied to `dr/build/mod.rs` and the generated method templates by the
`build` channel), for every call sequence. `SelValid` is the invariant "the selection designates an existing function
and block or nothing"; `InRange` is the property's hypothesis that insertion offsets lie within the target list.

`step_facts` gives for every call, branch by branch, the counter (C13), the change to the module as a `ModStep` (`step_mem` in
C06Mem.lean, `step_hdr` in C06Round.lean) and `StepOk` (this file). It and the other proofs about `step` unfold `step`, not its
helpers: those are used through the equations of `BuilderStep.lean`.
-/
namespace Rspirv.Props.C12
open Rspirv Rspirv.Model
open Rspirv.Props.C06Emit (emitted)

def SelValid (s : BState) : Prop :=
  (∀ f, s.selFn = some f → f < s.module.functions.length) ∧
  (∀ b, s.selBlk = some b → ∃ f fn, s.selFn = some f ∧ s.module.functions[f]? = some fn ∧ b < fn.blocks.length)

def ipOk (ip : InsertPoint) (len : Nat) : Prop :=
  match ip with
  | .end_ => True
  | .begin => True
  | .fromEnd n => n ≤ len
  | .fromBegin n => n ≤ len

theorem insertAt_isSome_of_ipOk {α} (l : List α) (ip : InsertPoint) (x : α) (h : ipOk ip l.length) :
    ∃ l', insertAt l ip x = some l' := by
  cases ip <;> simp_all [ipOk, insertAt, vecInsert]

/-- functions only grow: same number or more functions, every function keeps at least its blocks -/
def Grows (fs fs' : List (Function Inst)) : Prop :=
  fs.length ≤ fs'.length ∧ ∀ (f : Nat) (fn : Function Inst), fs[f]? = some fn →
    ∃ fn' : Function Inst, fs'[f]? = some fn' ∧ fn.blocks.length ≤ fn'.blocks.length

theorem grows_refl (fs : List (Function Inst)) : Grows fs fs := ⟨Nat.le_refl _, fun _ fn h => ⟨fn, h, Nat.le_refl _⟩⟩

theorem grows_set (fs : List (Function Inst)) (f : Nat) (fn fn' : Function Inst) (h : fs[f]? = some fn)
    (hb : fn.blocks.length ≤ fn'.blocks.length) : Grows fs (fs.set f fn') := by
  refine ⟨by simp, ?_⟩
  intro g gn hg
  by_cases e : f = g
  · subst e
    rw [h] at hg; cases hg
    have : f < fs.length := (List.getElem?_eq_some_iff.1 h).1
    exact ⟨fn', List.getElem?_set_self this, hb⟩
  · exact ⟨gn, (List.getElem?_set_ne e).trans hg, Nat.le_refl _⟩

theorem grows_append (fs : List (Function Inst)) (x : Function Inst) : Grows fs (fs ++ [x]) := by
  refine ⟨by simp, ?_⟩
  intro g gn hg
  have : g < fs.length := (List.getElem?_eq_some_iff.1 hg).1
  exact ⟨gn, by rw [List.getElem?_append_left this]; exact hg, Nat.le_refl _⟩

theorem _root_.Rspirv.Model.FnStep.blocks_le {fn fn' : Function Inst} {x : List Inst} (h : FnStep fn fn' x) :
    fn.blocks.length ≤ fn'.blocks.length := by
  cases h <;> simp

theorem _root_.Rspirv.Model.ModStep.grows {B : BTables} {m m' : Module Inst} {x : List Inst} (h : ModStep B m m' x) :
    Grows m.functions m'.functions := by
  cases h with
  | same | tgv | version => exact grows_refl _
  | push k i => rw [Module.push_functions]; exact grows_refl _
  | newFn d => exact grows_append _ _
  | inFn fn' x hj hs => exact grows_set _ _ _ _ hj hs.blocks_le

/-- the selection stays valid when functions only grow and the selection is unchanged -/
theorem selValid_grows (s s' : BState) (h : SelValid s) (hg : Grows s.module.functions s'.module.functions)
    (hf : s'.selFn = s.selFn) (hb : s'.selBlk = s.selBlk) : SelValid s' := by
  obtain ⟨h1, h2⟩ := h
  constructor
  · intro f hf'; rw [hf] at hf'; exact Nat.lt_of_lt_of_le (h1 f hf') hg.1
  · intro b hb'; rw [hb] at hb'
    obtain ⟨f, fn, e1, e2, e3⟩ := h2 b hb'
    obtain ⟨fn', e4, e5⟩ := hg.2 f fn e2
    exact ⟨f, fn', by rw [hf]; exact e1, e4, Nat.lt_of_lt_of_le e3 e5⟩

/-- dropping the block selection (or both) keeps validity -/
theorem selValid_noBlk (s s' : BState) (h : SelValid s) (hg : Grows s.module.functions s'.module.functions)
    (hf : s'.selFn = s.selFn ∨ s'.selFn = none) (hb : s'.selBlk = none) : SelValid s' := by
  refine ⟨fun f hf' => ?_, fun b hb' => by rw [hb] at hb'; cases hb'⟩
  rcases hf with hf | hf <;> rw [hf] at hf'
  · exact Nat.lt_of_lt_of_le (h.1 f hf') hg.1
  · cases hf'

theorem selValid_newBlock {s : BState} {f : Nat} (hf : s.selFn = some f) (fn : Function Inst) (blk : Block Inst) (n : Nat)
    (h : SelValid s) :
    SelValid ⟨{ s.module with functions := s.module.functions.set f { fn with blocks := fn.blocks ++ [blk] } }, n,
      s.selFn, some fn.blocks.length⟩ := by
  have hlt := h.1 f hf
  refine ⟨fun f' hf' => by simpa using h.1 f' hf', fun b hb => ?_⟩
  cases hb
  exact ⟨f, { fn with blocks := fn.blocks ++ [blk] }, hf, List.getElem?_set_self hlt, by simp⟩

theorem SelValid.fn_of {s : BState} (h : SelValid s) {f : Nat} (hf : s.selFn = some f) :
    ∃ fn, s.module.functions[f]? = some fn :=
  ⟨s.module.functions[f]'(h.1 f hf), by simp [h.1 f hf]⟩

theorem SelValid.blk_of {s : BState} (h : SelValid s) {b : Nat} (hb : s.selBlk = some b) :
    ∃ f fn blk, s.selFn = some f ∧ s.module.functions[f]? = some fn ∧ fn.blocks[b]? = some blk := by
  obtain ⟨f, fn, e1, e2, e3⟩ := h.2 b hb
  exact ⟨f, fn, fn.blocks[b], e1, e2, by simp [e3]⟩

theorem SelValid.blk_none {s : BState} (h : SelValid s) (hf : s.selFn = none) : s.selBlk = none := by
  cases hb : s.selBlk with
  | none => rfl
  | some b => obtain ⟨_, _, e, _⟩ := h.2 b hb; rw [hf] at e; cases e

def curLen (s : BState) : Option Nat :=
  match s.selFn, s.selBlk with
  | some f, some b => (s.module.functions[f]?).bind (fun fn => (fn.blocks[b]?).map (·.insts.length))
  | _, _ => none

theorem updBlock_sel {s : BState} (h : SelValid s) {f b : Nat} (hf : s.selFn = some f) (hb : s.selBlk = some b)
    (g : Block Inst → Option (Block Inst)) :
    ∃ blk, curLen s = some blk.insts.length ∧ (updBlock s.module f b g = none → g blk = none) := by
  obtain ⟨f', fn, blk, e1, e2, e3⟩ := h.blk_of hb
  cases hf.symm.trans e1
  refine ⟨blk, by simp [curLen, hf, hb, e2, e3], fun hu => ?_⟩
  cases hg : g blk with
  | none => rfl
  | some blk' => rw [updBlock_eq_some.2 ⟨fn, blk, blk', e2, e3, hg, rfl⟩] at hu; cases hu

def isErr : BOut → Bool
  | .err _ => true
  | .errDetachedNone => true
  | .errEmptyList => true
  | .errFunctionNotFound => true
  | .errBlockNotFound => true
  | _ => false

def isPanic : BOut → Bool
  | .panic _ => true
  | _ => false

/-- what every call guarantees -/
structure StepOk (s : BState) (r : BState × BOut) : Prop where
  noPanic : isPanic r.2 = false
  valid : SelValid r.1
  atomic : isErr r.2 = true → r.1.module = s.module

def InRange (B : BTables) (s : BState) : Call → Prop
  | .blockInst ip _ _ _ _ => ∀ n, curLen s = some n → ipOk ip n
  | .terminator ip _ _ => ∀ n, curLen s = some n → ipOk ip n
  | .insertRaw ip _ => ∀ n, curLen s = some n → ipOk ip n
  | .insertTGV ip _ => ipOk ip s.module.typesGlobalValues.length
  -- the search of `select_function_by_name` indexes `operands[0]`/`operands[1]` of every `OpName` and unwraps every
  -- function's definition id: in range = well-formed names and definitions (what the Builder's own methods produce)
  | .selectByName nm => ∀ site, findByName B s.module.functions nm s.module.debugNames ≠ .panic site
  | _ => True

/-- the outcomes of `insert_into_block`: nothing selected; a panic, which a valid selection and an offset in range exclude;
or one `ModStep` on the selected block -/
theorem insertIntoBlock_spec (s : BState) (ip : InsertPoint) (i : Inst) :
    ((s.selFn = none ∨ s.selBlk = none) ∧ insertIntoBlock s ip i = (s, .err (.detachedInstruction i.opcode))) ∨
    ((SelValid s → (∀ n, curLen s = some n → ipOk ip n) → False) ∧
      insertIntoBlock s ip i = (s, .panic "insert_into_block: index")) ∨
    ∃ b m', s.selBlk = some b ∧ (∀ B, ModStep B s.module m' [i]) ∧ insertIntoBlock s ip i = ({ s with module := m' }, .unit) := by
  rcases insertIntoBlock_eq s ip i with h | ⟨f, b, hf, hb, ⟨hu, h⟩ | ⟨m', hu, h⟩⟩
  · exact Or.inl h
  · refine Or.inr (Or.inl ⟨fun hv hr => ?_, h⟩)
    obtain ⟨blk, hl, hg⟩ := updBlock_sel hv hf hb _
    obtain ⟨l', hl'⟩ := insertAt_isSome_of_ipOk blk.insts ip i (hr _ hl)
    simpa [hl'] using hg hu
  · refine Or.inr (Or.inr ⟨b, m', hb, fun B => .of_updBlock hu fun blk blk' hg => ?_, h⟩)
    obtain ⟨l, hl, rfl⟩ := Option.map_eq_some_iff.1 hg
    exact ⟨rfl, fun y hy => ((mem_insertAt hl).1 hy).imp id List.mem_singleton.2⟩

/-! ### every call, branch by branch -/

/-- what is shown of the result `r` of call `c` made in state `s` -/
structure Facts (B : BTables) (s : BState) (c : Call) (r : BState × BOut) : Prop where
  next : r.1.nextId = s.nextId ∨ r.1.nextId = s.nextId + 1
  shape : ModStep B s.module r.1.module (emitted B s c)
  ok : SelValid s → InRange B s c → StepOk s r

namespace Facts
variable {B : BTables} {s s' : BState} {c : Call} {o : BOut} {m' : Module Inst} {n : Nat}

/-- a call refused with an error after `allocId` has moved the counter to `n`: the id is spent all the same -/
theorem spent (hn : n = s.nextId ∨ n = s.nextId + 1) (hp : isPanic o = false) :
    Facts B s c ({ s with nextId := n }, o) :=
  ⟨hn, .same _, fun h _ => ⟨hp, h, fun _ => rfl⟩⟩

theorem same (o : BOut) (hp : isPanic o = false) : Facts B s c (s, o) := spent (Or.inl rfl) hp

/-- a branch that a valid selection and offsets in range exclude (the panics) -/
theorem excluded (hn : n = s.nextId ∨ n = s.nextId + 1) (hx : SelValid s → InRange B s c → False) :
    Facts B s c ({ s with nextId := n }, o) :=
  ⟨hn, .same _, fun h hr => (hx h hr).elim⟩

/-- a call that succeeds -/
theorem done (hn : s'.nextId = s.nextId ∨ s'.nextId = s.nextId + 1) (hs : ModStep B s.module s'.module (emitted B s c))
    (ho : (isPanic o || isErr o) = false) (hv : SelValid s → SelValid s') : Facts B s c (s', o) :=
  ⟨hn, hs, fun h _ => ⟨(Bool.or_eq_false_iff.1 ho).1, hv h, fun e => by rw [(Bool.or_eq_false_iff.1 ho).2] at e; cases e⟩⟩

/-- … and leaves the selection as it was -/
theorem kept (hn : n = s.nextId ∨ n = s.nextId + 1) (hs : ModStep B s.module m' (emitted B s c))
    (ho : (isPanic o || isErr o) = false) : Facts B s c (⟨m', n, s.selFn, s.selBlk⟩, o) :=
  done hn hs ho fun h => selValid_grows s _ h hs.grows rfl rfl

/-- … and drops the block selection, or both -/
theorem dropped {sf : Option Nat} (hn : n = s.nextId ∨ n = s.nextId + 1) (hs : ModStep B s.module m' (emitted B s c))
    (hf : sf = s.selFn ∨ sf = none) (ho : (isPanic o || isErr o) = false) : Facts B s c (⟨m', n, sf, none⟩, o) :=
  done hn hs ho fun h => selValid_noBlk s _ h hs.grows hf rfl

/-- `select_function(Some(i))` and the end of `select_function_by_name` -/
theorem select (i : Nat) :
    Facts B s c (if i < s.module.functions.length then ({ s with selFn := some i, selBlk := none }, .unit)
      else (s, .errFunctionNotFound)) := by
  split
  · refine done (Or.inl rfl) (.same _) rfl fun _ => ⟨fun f hf => ?_, fun b hb => nomatch hb⟩
    cases hf; assumption
  · exact same _ rfl

end Facts

theorem step_facts (B : BTables) (s : BState) (c : Call) : Facts B s c (s.step B c) := by
  -- a selected function that is not there contradicts `SelValid`
  have noFn : ∀ {s : BState} {f}, s.selFn = some f → s.module.functions[f]? = none → SelValid s → InRange B s c → False :=
    fun hf hn h _ => by obtain ⟨fn, e⟩ := h.fn_of hf; rw [hn] at e; cases e
  cases c with
  | id => exact .kept (Or.inr rfl) (.same _) rfl
  | setVersion a b => exact .kept (Or.inl rfl) (.version _ a b (by cases s.module.header <;> rfl)) rfl
  | beginFunction rt fid ct ft =>
    rcases s with ⟨m, n, _ | f, sb⟩
    · have hv : ∀ n' (f : Function Inst), SelValid ⟨m, n, none, sb⟩ →
          SelValid ⟨{ m with functions := m.functions ++ [f] }, n', some m.functions.length, sb⟩ :=
        fun n' f h => ⟨fun f hf => by cases hf; simp, fun b hb => nomatch (h.blk_none rfl).symm.trans hb⟩
      cases fid <;> exact .done (by simp) (.newFn _) rfl (hv _ _)
    · exact .same _ rfl
  | endFunction =>
    rcases s with ⟨m, n, _ | f, sb⟩
    · exact .same _ rfl
    · dsimp only [BState.step]
      cases hfn : m.functions[f]? with
      | none => exact .excluded (Or.inl rfl) (noFn rfl hfn)
      | some fn => exact .dropped (Or.inl rfl) (.inFn _ _ hfn (.end_ _)) (Or.inr rfl) rfl
  | functionParameter rt =>
    rcases s with ⟨m, n, _ | f, sb⟩
    · exact .same _ rfl
    · dsimp only [BState.step]
      cases hfn : m.functions[f]? with
      | none => exact .excluded (Or.inr rfl) (noFn rfl hfn)
      | some fn => exact .kept (Or.inr rfl) (.inFn _ _ hfn (.param _)) rfl
  | beginBlock l | beginBlockNoLabel l =>
    rcases s with ⟨m, n, _ | f, _ | b⟩
    · exact .same _ rfl
    · exact .same _ rfl
    · cases l <;> dsimp only [BState.step] <;> cases hfn : m.functions[f]?
      · exact .excluded (Or.inr rfl) (noFn rfl hfn)
      · exact .done (Or.inr rfl) (.inFn _ _ hfn (.block _)) rfl (selValid_newBlock rfl _ _ _)
      · exact .excluded (Or.inl rfl) (noFn rfl hfn)
      · exact .done (Or.inl rfl) (.inFn _ _ hfn (.block _)) rfl (selValid_newBlock rfl _ _ _)
    · exact .same _ rfl
  | blockInst ip op rt rule ops =>
    dsimp only [BState.step]
    obtain ⟨n, ha, hn⟩ := allocId_eq s rule
    rw [ha]
    have hn' : n = s.nextId ∨ n = s.nextId + 1 := hn.imp id And.left
    rcases insertIntoBlock_spec { s with nextId := n } ip ⟨op, rt, (allocId s rule).2, ops⟩ with
      ⟨_, h⟩ | ⟨hx, h⟩ | ⟨_, m', _, hm, h⟩ <;> rw [h]
    · exact .spent hn' rfl
    · exact .excluded hn' hx
    · exact .kept hn' (hm B) (by cases (allocId s rule).2 <;> rfl)
  | terminator ip op ops =>
    dsimp only [BState.step]
    cases s.selBlk with
    | none => exact .same _ rfl
    | some b =>
      rcases insertIntoBlock_spec s ip ⟨op, none, none, ops⟩ with ⟨_, h⟩ | ⟨hx, h⟩ | ⟨_, m', _, hm, h⟩ <;> rw [h]
      · exact .same _ rfl
      · exact .excluded (Or.inl rfl) hx
      · exact .dropped (Or.inl rfl) (hm B) (Or.inl rfl) rfl
  | moduleInst k op rt rule ops =>
    dsimp only [BState.step]
    obtain ⟨n, ha, hn⟩ := allocId_eq s rule
    rw [ha]
    exact .kept (hn.imp id And.left) (.push _ _) (by cases (allocId s rule).2 <;> rfl)
  | varUndef op rt rid ops =>
    obtain ⟨n, hn, e⟩ := s.step_varUndef B op rt rid ops
    rw [e]
    split
    · rename_i f b hf hb
      split
      · refine .kept hn (.of_updBlock ‹_› fun blk blk' e => ?_) rfl
        cases e
        exact ⟨rfl, fun y hy => List.mem_append.1 hy⟩
      · refine .excluded hn fun hv _ => ?_
        obtain ⟨blk, _, hg⟩ := updBlock_sel hv hf hb _
        cases hg ‹_›
    · exact .kept hn (.push 10 _) rfl
  | lineLike op ops =>
    dsimp only [BState.step]
    split
    · rename_i hsb
      rcases insertIntoBlock_spec s .end_ ⟨op, none, none, ops⟩ with ⟨hsel, h⟩ | ⟨hx, h⟩ | ⟨_, m', _, hm, h⟩ <;> rw [h]
      · -- a block selected in no function
        exact .excluded (Or.inl rfl) fun hv _ => nomatch hsel.elim hv.blk_none id ▸ hsb
      · exact .excluded (Or.inl rfl) fun hv _ => hx hv fun _ _ => trivial
      · exact .kept (Or.inl rfl) (hm B) rfl
    · exact .kept (Or.inl rfl) (.push 10 _) rfl
  | typeRequest op rid ops =>
    cases rid with
    | some v => exact .kept (Or.inl rfl) (.push 10 _) rfl
    | none =>
      dsimp only [BState.step]
      split
      · exact .same _ rfl
      · exact .kept (Or.inr rfl) (.push 10 _) rfl
  | insertTGV ip i =>
    dsimp only [BState.step]
    cases hl : insertAt s.module.typesGlobalValues ip i with
    | some l => exact .kept (Or.inl rfl) (.tgv l i fun y hy => (mem_insertAt hl).1 hy) rfl
    | none =>
      refine .excluded (Or.inl rfl) fun _ hr => ?_
      obtain ⟨l', hl'⟩ := insertAt_isSome_of_ipOk s.module.typesGlobalValues ip i hr
      cases hl.symm.trans hl'
  | insertRaw ip i =>
    dsimp only [BState.step]
    rcases insertIntoBlock_spec s ip i with ⟨_, h⟩ | ⟨hx, h⟩ | ⟨_, m', _, hm, h⟩ <;> rw [h]
    · exact .same _ rfl
    · exact .excluded (Or.inl rfl) hx
    · exact .kept (Or.inl rfl) (hm B) rfl
  | selectFunction i =>
    cases i with
    | none => exact .dropped (Or.inl rfl) (.same _) (Or.inr rfl) rfl
    | some i => exact .select i
  | selectByName nm =>
    dsimp only [BState.step]
    split
    · exact .select _
    · exact .same _ rfl
    · exact .excluded (Or.inl rfl) fun _ hr => hr _ ‹_›
  | selectBlock i =>
    cases i with
    | none => exact .dropped (Or.inl rfl) (.same _) (Or.inl rfl) rfl
    | some i =>
      rcases s with ⟨m, n, _ | f, sb⟩
      · exact .same _ rfl
      · dsimp only [BState.step]
        cases hfn : m.functions[f]? with
        | none => exact .excluded (Or.inl rfl) (noFn rfl hfn)
        | some fn =>
          dsimp only
          split
          · refine .done (Or.inl rfl) (.same _) rfl fun h => ⟨h.1, fun b hb => ?_⟩
            cases hb
            exact ⟨f, fn, rfl, hfn, ‹_›⟩
          · exact .same _ rfl
  | popInstruction =>
    dsimp only [BState.step]
    split
    · rename_i f b hf hb
      cases hfn : s.module.functions[f]? with
      | none => exact .excluded (Or.inl rfl) (noFn hf hfn)
      | some fn =>
        dsimp only
        cases hblk : fn.blocks[b]? with
        | none =>
          refine .excluded (Or.inl rfl) fun h _ => ?_
          obtain ⟨_, _, _, e1, e2, e3⟩ := h.blk_of hb
          cases hf.symm.trans e1
          cases hfn.symm.trans e2
          cases hblk.symm.trans e3
        | some blk =>
          dsimp only
          cases blk.insts.getLast? with
          | none => exact .same _ rfl
          | some i =>
            exact .kept (Or.inl rfl) (.inFn _ _ hfn (.insts _ [] hblk fun y hy => Or.inl (List.dropLast_subset _ hy))) rfl
    · exact .same _ rfl

/-- **C12 (one call).** Under the invariant and in-range offsets: the call does not panic, the invariant is preserved,
and a call that returns an error leaves the instructions of the module exactly as they were. -/
theorem step_spec (B : BTables) (s : BState) (c : Call) (h : SelValid s) (hr : InRange B s c) : StepOk s (s.step B c) :=
  (step_facts B s c).ok h hr

theorem ok_selectFunction (B : BTables) (s : BState) (h : SelValid s) (i : Option Nat) :
    StepOk s (s.step B (.selectFunction i)) :=
  step_spec B s _ h trivial

theorem ok_selectBlock (B : BTables) (s : BState) (h : SelValid s) (i : Option Nat) :
    StepOk s (s.step B (.selectBlock i)) :=
  step_spec B s _ h trivial

theorem ok_popInstruction (B : BTables) (s : BState) (h : SelValid s) : StepOk s (s.step B .popInstruction) :=
  step_spec B s _ h trivial

theorem ok_selectByName (B : BTables) (s : BState) (h : SelValid s) (nm : List Nat)
    (hr : ∀ site, findByName B s.module.functions nm s.module.debugNames ≠ .panic site) :
    StepOk s (s.step B (.selectByName nm)) :=
  step_spec B s _ h hr

/-- **C12 (structure is enforced).** Success/failure conditions of the structural calls, and what success does to the
selection: a terminator closes the block, ending a function closes the function. -/
theorem C12_conditions (B : BTables) (s : BState) (h : SelValid s) :
    (∀ rt fid c ft, isErr (s.step B (.beginFunction rt fid c ft)).2 = true ↔ s.selFn.isSome = true) ∧
    (∀ l, isErr (s.step B (.beginBlock l)).2 = true ↔ (s.selFn = none ∨ s.selBlk.isSome = true)) ∧
    (∀ rt, isErr (s.step B (.functionParameter rt)).2 = true ↔ s.selFn = none) ∧
    (isErr (s.step B .endFunction).2 = true ↔ s.selFn = none) ∧
    (isErr (s.step B .endFunction).2 = false → (s.step B .endFunction).1.selFn = none ∧ (s.step B .endFunction).1.selBlk = none) ∧
    (∀ ip op ops, (∀ n, curLen s = some n → ipOk ip n) →
      (isErr (s.step B (.terminator ip op ops)).2 = true ↔ s.selBlk = none) ∧
      (isErr (s.step B (.terminator ip op ops)).2 = false → (s.step B (.terminator ip op ops)).1.selBlk = none)) ∧
    (∀ ip op rt rule ops, (∀ n, curLen s = some n → ipOk ip n) →
      (isErr (s.step B (.blockInst ip op rt rule ops)).2 = true ↔ s.selBlk = none)) := by
  have sel : s.selFn = none ∨ ∃ f fn, s.selFn = some f ∧ s.module.functions[f]? = some fn := by
    cases hf : s.selFn with
    | none => exact Or.inl rfl
    | some f => obtain ⟨fn, hfn⟩ := h.fn_of hf; exact Or.inr ⟨f, fn, rfl, hfn⟩
  dsimp only [BState.step]
  refine ⟨?_, ?_, ?_, ?_, ?_, ?_, ?_⟩
  · intro rt fid c ft
    cases s.selFn <;> cases fid <;> exact Iff.rfl
  · intro l
    rcases sel with hf | ⟨f, fn, hf, hfn⟩
    · simp [isErr, hf]
    · cases s.selBlk <;> cases l <;> simp [isErr, hf, hfn]
  · intro rt
    rcases sel with hf | ⟨f, fn, hf, hfn⟩ <;> simp [isErr, *]
  · rcases sel with hf | ⟨f, fn, hf, hfn⟩ <;> simp [isErr, *]
  · rcases sel with hf | ⟨f, fn, hf, hfn⟩ <;> simp [isErr, *]
  · intro ip op ops hr
    rcases insertIntoBlock_spec s ip ⟨op, none, none, ops⟩ with ⟨hsel, _⟩ | ⟨hx, _⟩ | ⟨b, m', hb, _, e⟩
    · simp [isErr, hsel.elim h.blk_none id]
    · exact (hx h hr).elim
    · simp [isErr, hb, e]
  · intro ip op rt rule ops hr
    obtain ⟨n, ha, _⟩ := allocId_eq s rule
    rw [ha]
    rcases insertIntoBlock_spec { s with nextId := n } ip ⟨op, rt, (allocId s rule).2, ops⟩ with
      ⟨hsel, e⟩ | ⟨hx, _⟩ | ⟨b, m', hb, _, e⟩
    · simpa [isErr, e] using hsel.elim h.blk_none id
    · exact (hx h hr).elim
    · rw [e]; cases (allocId s rule).2 <;> simp [isErr, show s.selBlk = some b from hb]

/-- every call of the sequence has in-range offsets at the state it is made in -/
def AllInRange (B : BTables) : BState → List Call → Prop
  | _, [] => True
  | s, c :: cs => InRange B s c ∧ AllInRange B (s.step B c).1 cs

/-- **C12 (all histories).** No call of any sequence (with in-range offsets) panics and the selection designates an
existing function and block, or nothing, after every call. -/
theorem C12_run (B : BTables) : ∀ (cs : List Call) (s : BState), SelValid s → AllInRange B s cs →
    (∀ o ∈ (BState.run B s cs).2, isPanic o = false) ∧ SelValid (BState.run B s cs).1 := by
  intro cs
  induction cs with
  | nil => exact fun s h _ => ⟨(fun _ ho => nomatch ho), h⟩
  | cons c cs ih =>
    intro s h hr
    obtain ⟨np, hv, _⟩ := step_spec B s c h hr.1
    obtain ⟨ih1, ih2⟩ := ih _ hv hr.2
    exact ⟨List.forall_mem_cons.2 ⟨np, ih1⟩, ih2⟩

theorem selValid_new : SelValid BState.new := by
  constructor <;> intro _ h <;> cases h

/-- non-vacuity: the history that panicked before fix ebbae66 is in range from a new builder -/
example (B : BTables) : SelValid BState.new ∧
    AllInRange B BState.new [.beginFunction 1 none 0 2, .beginBlock none, .endFunction, .beginFunction 1 none 0 2,
      .blockInst .end_ 0 none .none []] := by
  refine ⟨selValid_new, trivial, trivial, trivial, trivial, ?_, trivial⟩
  intro n _; trivial

end Rspirv.Props.C12
