import Rspirv.Model.Assemble
import Rspirv.Model.Spec
import Rspirv.Props.C11
import Rspirv.Props.C10Track
/-!
# C10 — context-dependent literal widths follow the types declared earlier

The width decision is `parseLiteral` applied to the tracker state; the tracker state is a fold of
`Tracker.track` over the instructions already delivered in the *current* parse, starting from the empty
tracker (`parse` takes no tracker argument). Statements hold for every table set.
-/
namespace Rspirv.Props.C10
open Rspirv Rspirv.Model Rspirv.Model.DState

/-- number of words the literal occupies, as a function of the resolved type alone: `none` = unsupported width -/
def litWords : Option TType → Option Nat
  | some (.int w _) => if w = 8 ∨ w = 16 ∨ w = 32 then some 1 else if w = 64 then some 2 else none
  | some (.float w) => if w = 16 ∨ w = 32 then some 1 else if w = 64 then some 2 else none
  | none => some 1

/-- the width decision, for `parse_literal` and for the recogniser alike: both are functions of `litWords` of the resolved type -/
theorem literal_cases (G : Tables) (τ : Tracker) (idx ty : Nat) :
    (litWords (τ.resolve ty) = some 1 ∧ (∀ d, parseLiteral G τ idx ty d = litOne G d) ∧
      ∀ ws, Spec.literal G τ ty ws = Spec.lit1 G ws) ∨
    (litWords (τ.resolve ty) = some 2 ∧ (∀ d, parseLiteral G τ idx ty d = litTwo d) ∧
      ∀ ws, Spec.literal G τ ty ws = Spec.lit2 ws) ∨
    (litWords (τ.resolve ty) = none ∧ (∀ d, parseLiteral G τ idx ty d = (.err (.typeUnsupported d.offset idx), d)) ∧
      ∀ ws, Spec.literal G τ ty ws = none) := by
  unfold parseLiteral Spec.literal litWords
  rcases τ.resolve ty with _ | ⟨w, s⟩ | w
  · exact .inl ⟨rfl, fun _ => rfl, fun _ => rfl⟩
  -- an integer and a float type differ only in the widths that take one word: `litWords`' tests as the routines write them
  all_goals
    simp only [← beq_iff_eq (a := w), ← Bool.or_eq_true, ← Bool.or_assoc]
    generalize (_ || w == 32) = one
    cases one
    · cases w == 64
      · exact .inr (.inr ⟨rfl, fun _ => rfl, fun _ => rfl⟩)
      · exact .inr (.inl ⟨rfl, fun _ => rfl, fun _ => rfl⟩)
    · exact .inl ⟨rfl, fun _ => rfl, fun _ => rfl⟩

/-- **C10 (decision).** `parse_literal` reads one word for the supported widths up to 32 bits and for unknown
types, two words low word first for 64 bits, and answers `TypeUnsupported` (at the current offset and instruction
number, consuming nothing) for every other width. -/
theorem C10_literal (G : Tables) (τ : Tracker) (idx t : Nat) (d : DState) :
    (litWords (τ.resolve t) = some 1 → parseLiteral G τ idx t d = litOne G d) ∧
    (litWords (τ.resolve t) = some 2 → parseLiteral G τ idx t d = litTwo d) ∧
    (litWords (τ.resolve t) = none → parseLiteral G τ idx t d = (.err (.typeUnsupported d.offset idx), d)) := by
  rcases literal_cases G τ idx t with ⟨hw, h, _⟩ | ⟨hw, h, _⟩ | ⟨hw, h, _⟩ <;> rw [hw]
  · exact ⟨fun _ => h d, nofun, nofun⟩
  · exact ⟨nofun, fun _ => h d, nofun⟩
  · exact ⟨nofun, nofun, fun _ => h d⟩

/-- one word: a 32-bit literal operand holding the little-endian word at the offset -/
theorem litOne_spec (G : Tables) (d : DState) (o : Operand) (d' : DState) (h : litOne G d = (.ok o, d')) :
    o = .w G.vLit32 (le32 d.bytes d.offset) ∧ d'.offset = d.offset + 4 := by
  unfold litOne at h
  rcases hw : word d with ⟨v | _ | _, d1⟩ <;> rw [hw] at h <;> cases h
  obtain ⟨rfl, a⟩ := Rspirv.Props.C11.word_ok hw
  exact ⟨rfl, a.offset⟩

/-- two words: a 64-bit literal operand, low word first -/
theorem litTwo_spec (d : DState) (o : Operand) (d' : DState) (h : litTwo d = (.ok o, d')) :
    o = .q (le32 d.bytes (d.offset + 4) * 4294967296 + le32 d.bytes d.offset) ∧ d'.offset = d.offset + 8 := by
  unfold litTwo at h
  have hok := (Rspirv.Props.C11.bit64_spec d).2.2
  rcases hb : DState.bit64 d with ⟨v | _ | _, d2⟩ <;> rw [hb] at h hok <;> cases h
  exact ⟨congrArg Operand.q (hok v rfl).1, (hok v rfl).2⟩

/-- two-word literals are assembled low word first and one-word literals as one word: the assembler emits exactly
the number of words the parser consumed -/
theorem C10_asm (v variant : Nat) :
    encodeOperand (.q v) = [v % 4294967296, v / 4294967296] ∧ (encodeOperand (.q v)).length = 2 ∧
    (encodeOperand (.w variant v)).length = 1 := by
  simp [encodeOperand]

/-! ### the tracker -/

/-- **C10 (declarations).** An `OpTypeInt`/`OpTypeFloat` declaration with two/one 32-bit literal operands binds its
result id to that width; the newest binding wins; other ids are untouched. -/
theorem C10_track_int (G : TTables) (τ : Tracker) (rid bits sign : Nat) (rest : List Operand)
    (hT : G.isType G.opTypeInt = true) :
    τ.track G ⟨G.opTypeInt, none, some rid, .w G.vLit32 bits :: .w G.vLit32 sign :: rest⟩
      = some ((rid, .int bits (sign == 1)) :: τ) := by
  simp [Tracker.track, hT]

theorem C10_track_float (G : TTables) (τ : Tracker) (rid bits : Nat) (rest : List Operand)
    (hT : G.isType G.opTypeFloat = true) (hne : G.opTypeFloat ≠ G.opTypeInt) :
    τ.track G ⟨G.opTypeFloat, none, some rid, .w G.vLit32 bits :: rest⟩ = some ((rid, .float bits) :: τ) := by
  have : (G.opTypeFloat == G.opTypeInt) = false := by simpa using hne
  simp [Tracker.track, hT, this]

theorem resolve_cons (τ : Tracker) (rid id : Nat) (t : TType) :
    Tracker.resolve ((rid, t) :: τ) id = if rid = id then some t else τ.resolve id := by
  simp only [Tracker.resolve, List.find?_cons]
  by_cases h : rid = id
  · simp [h]
  · have : (rid == id) = false := by simpa using h
    simp [this, h]

/-- **C10 (propagation).** A value-defining instruction (any non-type opcode with a result id) gives its result id the
tracked type of its result type, when that one is tracked; otherwise the tracker is unchanged. This is how the
selector of an `OpSwitch` gets its width. -/
theorem C10_track_value (G : TTables) (τ : Tracker) (i : Inst) (rid : Nat) (hr : i.rid = some rid)
    (hT : G.isType i.opcode = false) :
    τ.track G i = some (match i.rtype.bind τ.resolve with
      | some t => (rid, t) :: τ
      | none => τ) := by
  simp only [Tracker.track, hr, hT]
  cases i.rtype.bind τ.resolve <;> simp

/-- instructions without a result id never change the tracker -/
theorem C10_track_noid (G : TTables) (τ : Tracker) (i : Inst) (hr : i.rid = none) : τ.track G i = some τ := by
  simp [Tracker.track, hr]

/-- **C10 (freshness).** Every parse starts from the empty tracker: `parse` has no tracker parameter and its
instruction loop is entered with `[]`. -/
theorem C10_fresh (G : Tables) (script : Nat → Action) (bytes : List Nat) (h : Header) (d1 : DState)
    (h0 : consume (script 0) 0 = none) (h1 : consume (script 1) 1 = none)
    (hh : parseHeader G (DState.new bytes) = (.ok h, d1)) :
    parse G script bytes = parseLoop G script (bytes.length + 1) [] 2 0 d1 [.header h, .init] := by
  simp [parse, h0, h1, hh]

/-- where the context comes from: the literal of `OpConstant`/`OpSpecConstant` is sized by the instruction's own
result type, each case literal of `OpSwitch` by the selector (first operand) -/
theorem C10_constant_uses_rtype (G : Tables) (τ : Tracker) (idx opcode t : Nat) (a : Acc) (d : DState)
    (hk : G.kCtxNumber ≠ G.kIdResultType ∧ G.kCtxNumber ≠ G.kIdResult)
    (hop : opcode = G.opConstant ∨ opcode = G.opSpecConstant) (hrt : a.rtype = some t) :
    (∀ o d1, parseLiteral G τ idx t d = (.ok o, d1) →
      parseOne G τ idx opcode G.kCtxNumber a d = (.ok { a with ops := a.ops ++ [o] }, d1)) ∧
    (∀ x d1, parseLiteral G τ idx t d = (.err x, d1) →
      parseOne G τ idx opcode G.kCtxNumber a d = (.err x, d1)) := by
  have h1 : (G.kCtxNumber == G.kIdResultType) = false := by simpa using hk.1
  have h2 : (G.kCtxNumber == G.kIdResult) = false := by simpa using hk.2
  have h3 : (opcode == G.opConstant || opcode == G.opSpecConstant) = true := by
    rcases hop with rfl | rfl <;> simp
  constructor
  · intro o d1 h; simp [parseOne, h1, h2, h3, hrt, h]
  · intro x d1 h; simp [parseOne, h1, h2, h3, hrt, h]

example : litWords (some (.int 16 true)) = some 1 ∧ litWords (some (.float 64)) = some 2 ∧
    litWords (some (.int 128 false)) = none ∧ litWords (some (.float 8)) = none ∧ litWords none = some 1 := by decide

end Rspirv.Props.C10
