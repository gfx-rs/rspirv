import Rspirv.Props.C06Typed
import Rspirv.Props.C06Mem
/-!
# C06 — histories of typed calls

`built_all` (C06Mem.lean) carries a property of the emitted instructions over to every instruction of the built module. With
`C06_roundtrip_typed` and `call_typed`: **a complete plain history of calls whose emitted instructions conform to the grammar
by their own fields survives assemble-then-load unchanged** (`C06_typed_history`) — the hypotheses are about the arguments of
the calls only.
-/
namespace Rspirv.Props.C06Emit
open Rspirv Rspirv.Model Rspirv.Model.Typed Rspirv.Instances Rspirv.Props.C02 Rspirv.Props.C06Round Rspirv.Props.C06End
  Rspirv.Props.C06Typed

/-- **C06 for histories of typed calls.** A complete plain history from a new builder in which every call emits an instruction
that conforms to the grammar by its own fields (`InstT0`, e.g. by `call_typed`) and assembles to 32-bit words: the module
`Builder::module()` returns is read back unchanged by `load_bytes` from the bytes of its assembly. The hypotheses speak about
the calls of the history only (and about the size of the output). -/
theorem C06_typed_history (cs : List Call) (hp : PlainRun theLTables theBTables BState.new cs)
    (hc : (BState.run theBTables BState.new cs).1.selFn = none)
    (he : EmitsP theBTables (fun i => InstT0 theTables i ∧ WordsOk (assembleInst i)) BState.new cs)
    (hw : WordsOk (Rspirv.Props.C15.assemble assembleInst ((BState.run theBTables BState.new cs).1.finish theBTables)))
    (hsmall : 4 * (Rspirv.Props.C15.assemble assembleInst ((BState.run theBTables BState.new cs).1.finish theBTables)).length < 2 ^ 63) :
    loadBytes theTables theLTables
        ((Rspirv.Props.C15.assemble assembleInst ((BState.run theBTables BState.new cs).1.finish theBTables)).flatMap Spec.wordBytes) =
      .ok ((BState.run theBTables BState.new cs).1.finish theBTables) :=
  C06_roundtrip_typed cs hp hc (built_all theBTables _ cs he) hw hsmall

/-- after any history, plain or not, from a new builder: the words of the assembled module are 32-bit words as soon as the
emitted instructions' words are and the id counter fits 32 bits -/
theorem run_wordsOk {P : Inst → Prop} (hP : ∀ i, P i → WordsOk (assembleInst i)) (cs : List Call)
    (he : EmitsP theBTables P BState.new cs) (hid : (BState.run theBTables BState.new cs).1.nextId < 4294967296) :
    WordsOk (Rspirv.Props.C15.assemble assembleInst ((BState.run theBTables BState.new cs).1.finish theBTables)) := by
  have hh := run_hdr theBTables cs BState.new trivial
  obtain ⟨hd, e1, e2, e3, e4, e5, e6⟩ := finish_hdr theBTables default_version_normal _ hh
  rw [Rspirv.Props.C15.C15_assemble_header _ _ e1]
  intro w hw
  rcases List.mem_append.1 hw with hw | hw
  · simp only [List.mem_cons, List.not_mem_nil, or_false] at hw
    have hmag : theBTables.magic < 4294967296 := by decide +kernel
    unfold VersionNormal at e5
    rcases hw with rfl | rfl | rfl | rfl | rfl
    · rw [e2]; exact hmag
    · omega
    · rw [e3]; decide
    · rw [e6]; exact hid
    · rw [e4]; decide
  · obtain ⟨i, hi, hwi⟩ := List.mem_flatMap.1 hw
    exact hP i (built_all theBTables P cs he i hi) w hwi

/-- the words of the assembled module are 32-bit words as soon as the emitted instructions' words are and the id counter fits 32 bits -/
theorem assemble_wordsOk (cs : List Call) (hp : PlainRun theLTables theBTables BState.new cs)
    (he : EmitsP theBTables (fun i => InstT0 theTables i ∧ WordsOk (assembleInst i)) BState.new cs)
    (hid : (BState.run theBTables BState.new cs).1.nextId < 4294967296) :
    WordsOk (Rspirv.Props.C15.assemble assembleInst ((BState.run theBTables BState.new cs).1.finish theBTables)) :=
  run_wordsOk (fun _ h => h.2) cs he hid

/-- **C06 for histories of typed calls, hypotheses on the history only.** -/
theorem C06_typed_history' (cs : List Call) (hp : PlainRun theLTables theBTables BState.new cs)
    (hc : (BState.run theBTables BState.new cs).1.selFn = none)
    (he : EmitsP theBTables (fun i => InstT0 theTables i ∧ WordsOk (assembleInst i)) BState.new cs)
    (hid : (BState.run theBTables BState.new cs).1.nextId < 4294967296)
    (hsmall : 4 * (Rspirv.Props.C15.assemble assembleInst ((BState.run theBTables BState.new cs).1.finish theBTables)).length < 2 ^ 63) :
    loadBytes theTables theLTables
        ((Rspirv.Props.C15.assemble assembleInst ((BState.run theBTables BState.new cs).1.finish theBTables)).flatMap Spec.wordBytes) =
      .ok ((BState.run theBTables BState.new cs).1.finish theBTables) :=
  C06_typed_history cs hp hc he (assemble_wordsOk cs hp he hid) hsmall

end Rspirv.Props.C06Emit
