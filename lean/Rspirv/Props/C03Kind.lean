import Rspirv.Props.C03
/-!
# C03 — which kind of error the first malformed instruction gets (the first-word faults and surplus operands)

`C03_reject` says *where* a rejected binary is reported (instruction number, byte offset). Here: *which kind*. The faults
decided by the first word of the instruction or by its declared extent get `WordCountZero`, `OpcodeUnknown`,
`OperandExceeded` (`C03_kind_wc0`, `C03_kind_unknown`, `parseInst_surplus`); a first malformed instruction with a non-zero
word count and a known opcode always gets an operand-level kind (`C03_kind_operand`), and `C03_kind_cases` puts the three
together. Which operand-level kind a given operand fault gets is decided by the correspondence check and its oracle.
-/
namespace Rspirv.Props.C03Kind
open Rspirv Rspirv.Model Rspirv.Model.DState Rspirv.Props.C04 Rspirv.Props.C11 Rspirv.Props.ParserSpec Rspirv.Props.ParserErr Rspirv.Props.C03

variable {B : List Nat}

/-- operand words left over inside the declared extent -/
theorem parseInst_surplus (G : Tables) (hc : coreKindsOk G = true) (τ : Tracker) (idx : Nat) (d : DState) (w0 : Nat)
    (t : List Nat) (hv : SView B d (w0 :: t)) (hfit : w0 / 65536 - 1 ≤ t.length) (h : w0 / 65536 ≠ 0) (ent : Entry)
    (hl : lookupOpcode G.core (w0 % 65536) = some ent) (a : Acc) (x : Nat) (xs : List Nat)
    (hs : Spec.loop G τ ent.opcode (w0 / 65536 + ent.ops.length + 1) ent.ops ⟨none, none, []⟩ (t.take (w0 / 65536 - 1)) =
      some (a, x :: xs)) :
    ∃ d3, parseInst G τ idx d = (.err (.operandExceeded d3.offset idx), d3) ∧
      d3.offset + 4 * (xs.length + 1) = d.offset + 4 * (w0 / 65536) := by
  have hloop := loop_ref G hc τ idx ent.opcode (w0 / 65536 + ent.ops.length + 1) ent.ops ⟨none, none, []⟩ _ _ (hv.enter hfit)
  rw [hs] at hloop
  obtain ⟨d3, hr, hv3⟩ := hloop.of_some
  refine ⟨d3, ?_, hv3.stop.trans (inside_end h _)⟩
  rw [parseInst_known G τ idx hv h hl, hr, andThen_ok, view_limitReached hv3]
  rfl

/-- `C03_reject` with the first words the recogniser does not accept named -/
theorem reject_at (G : Tables) (hT : tablesSafe G = true) (bytes : List Nat) (hb : ∀ b ∈ bytes, b < 256)
    (hs : bytes.length < 2 ^ 63) (h20 : 20 ≤ bytes.length) (hmagic : le32 bytes 0 = G.magic) {w0 : Nat} {t : List Nat}
    (hrest : (Spec.insts G (bytes.length + 1) [] (Spec.streamWords bytes)).2 = w0 :: t) :
    ∃ e dF τF dF1, (parse G (fun _ => .continue_) bytes).result = .err (.inst e) ∧ SView bytes dF (w0 :: t) ∧
      parseInst G τF ((Spec.insts G (bytes.length + 1) [] (Spec.streamWords bytes)).1.length + 1) dF = (.err e, dF1) := by
  obtain ⟨e, dF, w0', t', r1, _, r3, r4, _, τF, dF1, r6⟩ :=
    C03_reject G hT bytes hb hs h20 hmagic (by rw [hrest]; simp)
  rw [hrest] at r3
  cases r3
  exact ⟨e, dF, τF, dF1, r1, r4, r6⟩

/-- **C03 (kind, zero word count).** If the first instruction the recogniser does not accept starts with a word whose
word count is zero, the parse ends with `WordCountZero` carrying the byte offset of that word and the 1-based number of
that instruction. -/
theorem C03_kind_wc0 (G : Tables) (hT : tablesSafe G = true) (bytes : List Nat) (hb : ∀ b ∈ bytes, b < 256)
    (hs : bytes.length < 2 ^ 63) (h20 : 20 ≤ bytes.length) (hmagic : le32 bytes 0 = G.magic) (w0 : Nat) (t : List Nat)
    (hrest : (Spec.insts G (bytes.length + 1) [] (Spec.streamWords bytes)).2 = w0 :: t) (hwc : w0 / 65536 = 0) :
    ∃ dF, SView bytes dF (w0 :: t) ∧ (parse G (fun _ => .continue_) bytes).result =
      .err (.inst (.wordCountZero dF.offset ((Spec.insts G (bytes.length + 1) [] (Spec.streamWords bytes)).1.length + 1))) := by
  obtain ⟨e, dF, τF, dF1, r1, r4, r6⟩ := reject_at G hT bytes hb hs h20 hmagic hrest
  rw [parseInst_wc0 G τF _ r4 hwc] at r6
  cases r6
  exact ⟨dF, r4, r1⟩

/-- **C03 (kind, unknown opcode).** -/
theorem C03_kind_unknown (G : Tables) (hT : tablesSafe G = true) (bytes : List Nat) (hb : ∀ b ∈ bytes, b < 256)
    (hs : bytes.length < 2 ^ 63) (h20 : 20 ≤ bytes.length) (hmagic : le32 bytes 0 = G.magic) (w0 : Nat) (t : List Nat)
    (hrest : (Spec.insts G (bytes.length + 1) [] (Spec.streamWords bytes)).2 = w0 :: t) (hwc : w0 / 65536 ≠ 0)
    (hl : lookupOpcode G.core (w0 % 65536) = none) :
    ∃ dF, SView bytes dF (w0 :: t) ∧ (parse G (fun _ => .continue_) bytes).result =
      .err (.inst (.opcodeUnknown dF.offset ((Spec.insts G (bytes.length + 1) [] (Spec.streamWords bytes)).1.length + 1)
        (w0 % 65536))) := by
  obtain ⟨e, dF, τF, dF1, r1, r4, r6⟩ := reject_at G hT bytes hb hs h20 hmagic hrest
  rw [parseInst_unknown G τF _ r4 hwc hl] at r6
  cases r6
  exact ⟨dF, r4, r1⟩

end Rspirv.Props.C03Kind

namespace Rspirv.Props.C03KindOp
open Rspirv Rspirv.Model Rspirv.Model.DState Rspirv.Props.C04 Rspirv.Props.C11 Rspirv.Props.ParserSpec
  Rspirv.Props.ParserErr Rspirv.Props.C03 Rspirv.Props.C03Kind

/-- **C03 (kind, operands).** If the first instruction the recogniser does not accept has a non-zero word count and an
opcode of the grammar table, the parse ends with an operand-level kind. -/
theorem C03_kind_operand (G : Tables) (hT : tablesSafe G = true) (bytes : List Nat) (hb : ∀ b ∈ bytes, b < 256)
    (hs : bytes.length < 2 ^ 63) (h20 : 20 ≤ bytes.length) (hmagic : le32 bytes 0 = G.magic) (w0 : Nat) (t : List Nat)
    (hrest : (Spec.insts G (bytes.length + 1) [] (Spec.streamWords bytes)).2 = w0 :: t) (hwc : w0 / 65536 ≠ 0)
    (ent : Entry) (hl : lookupOpcode G.core (w0 % 65536) = some ent) :
    ∃ e, (parse G (fun _ => .continue_) bytes).result = .err (.inst e) ∧ OpLevel e := by
  obtain ⟨e, dF, τF, dF1, r1, r4, r6⟩ := reject_at G hT bytes hb hs h20 hmagic hrest
  exact ⟨e, r1, parseInst_opLevel G τF _ dF w0 t r4 hwc ent hl e dF1 r6⟩

/-- **C03 (kind of fault, all cases).** For a rejected binary with a good header, let `w0` be the first word of the first
instruction the recogniser does not accept. The reported kind is `WordCountZero` iff the word count of `w0` is zero,
`OpcodeUnknown` (carrying the opcode number) iff it is not and the opcode is not in the table, and an operand-level kind
otherwise. -/
theorem C03_kind_cases (G : Tables) (hT : tablesSafe G = true) (bytes : List Nat) (hb : ∀ b ∈ bytes, b < 256)
    (hs : bytes.length < 2 ^ 63) (h20 : 20 ≤ bytes.length) (hmagic : le32 bytes 0 = G.magic) (w0 : Nat) (t : List Nat)
    (hrest : (Spec.insts G (bytes.length + 1) [] (Spec.streamWords bytes)).2 = w0 :: t) :
    ∃ e, (parse G (fun _ => .continue_) bytes).result = .err (.inst e) ∧
      ((w0 / 65536 = 0 ∧ ∃ o i, e = .wordCountZero o i) ∨
       (w0 / 65536 ≠ 0 ∧ lookupOpcode G.core (w0 % 65536) = none ∧ ∃ o i, e = .opcodeUnknown o i (w0 % 65536)) ∨
       (w0 / 65536 ≠ 0 ∧ (lookupOpcode G.core (w0 % 65536)).isSome ∧ OpLevel e)) := by
  by_cases hwc : w0 / 65536 = 0
  · obtain ⟨dF, _, hr⟩ := C03_kind_wc0 G hT bytes hb hs h20 hmagic w0 t hrest hwc
    exact ⟨_, hr, Or.inl ⟨hwc, _, _, rfl⟩⟩
  · cases hl : lookupOpcode G.core (w0 % 65536) with
    | none =>
      obtain ⟨dF, _, hr⟩ := C03_kind_unknown G hT bytes hb hs h20 hmagic w0 t hrest hwc hl
      exact ⟨_, hr, Or.inr (Or.inl ⟨hwc, rfl, _, _, rfl⟩)⟩
    | some ent =>
      obtain ⟨e, hr, ho⟩ := C03_kind_operand G hT bytes hb hs h20 hmagic w0 t hrest hwc ent hl
      exact ⟨e, hr, Or.inr (Or.inr ⟨hwc, rfl, ho⟩)⟩

end Rspirv.Props.C03KindOp
