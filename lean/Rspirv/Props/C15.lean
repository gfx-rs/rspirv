import Rspirv.Generic.Traversal
import Rspirv.Generated.Traversals
/-!
# C15 — module traversals visit exactly the assembled instruction sequence

The orders in which the iterators of `dr/constructs.rs` chain the sections, and the statement order of the
`Assemble` impls of `binary/assemble.rs`, are regenerated as data (`Generated.Traversals`). The model
functions of `Rspirv.Model` interpret those orders; the theorems hold for EVERY module value over EVERY
instruction type (missing header, definitions, labels and empty sections included).
-/
namespace Rspirv.Props.C15
open Rspirv.Model Rspirv.Generated.Traversals

/-- the logical layout order: the eleven sections in declaration order -/
def layout : List Nat := [0, 1, 2, 3, 4, 5, 6, 7, 8, 9, 10]

/-- table check on the regenerated orders -/
def ordersOk : Bool :=
  globalIter == layout && globalIterMut == layout && allIter == layout && allIterMut == layout &&
  !globalIterTail && !globalIterMutTail && allIterTail && allIterMutTail &&
  fnIter == [0, 1, 2, 3] && fnIterMut == [0, 1, 2, 3] && fnIterBlock == [0, 1] && fnIterMutBlock == [0, 1] &&
  asmBlock == [0, 1] && asmFunction == [0, 1, 2, 3] && asmModule == [0, 1, 2] && asmHeader == [0, 1, 2, 3, 4]

theorem orders_ok : ordersOk = true := by decide +kernel

variable {ι : Type} (asm : ι → List Nat) (m : Module ι)

/-- the traversals of the code, i.e. the model functions on the regenerated orders -/
def globalInstIter : List ι := m.globalChain globalIter
def globalInstIterMut : List ι := m.globalChain globalIterMut
def allInstIter : List ι := m.allChain allIter allIterTail fnIter fnIterBlock
def allInstIterMut : List ι := m.allChain allIterMut allIterMutTail fnIterMut fnIterMutBlock
def fnAllInstIter (f : Function ι) : List ι := f.chain fnIter fnIterBlock
def fnAllInstIterMut (f : Function ι) : List ι := f.chain fnIterMut fnIterMutBlock
def assemble : List Nat := m.asm asmModule asmHeader globalIter asmFunction asmBlock asm

private theorem parts : (globalIter = layout ∧ globalIterMut = layout ∧ allIter = layout ∧ allIterMut = layout) ∧
    (globalIterTail = false ∧ globalIterMutTail = false ∧ allIterTail = true ∧ allIterMutTail = true) ∧
    (fnIter = [0, 1, 2, 3] ∧ fnIterMut = [0, 1, 2, 3] ∧ fnIterBlock = [0, 1] ∧ fnIterMutBlock = [0, 1]) ∧
    (asmBlock = [0, 1] ∧ asmFunction = [0, 1, 2, 3] ∧ asmModule = [0, 1, 2] ∧ asmHeader = [0, 1, 2, 3, 4]) := by
  have h := orders_ok
  simp only [ordersOk, Bool.and_eq_true, beq_iff_eq, Bool.not_eq_true'] at h
  obtain ⟨⟨⟨⟨⟨⟨⟨⟨⟨⟨⟨⟨⟨⟨⟨a1, a2⟩, a3⟩, a4⟩, b1⟩, b2⟩, b3⟩, b4⟩, c1⟩, c2⟩, c3⟩, c4⟩, d1⟩, d2⟩, d3⟩, d4⟩ := h
  exact ⟨⟨a1, a2, a3, a4⟩, ⟨b1, b2, b3, b4⟩, ⟨c1, c2, c3, c4⟩, ⟨d1, d2, d3, d4⟩⟩

/-- **C15 (structure).** All-instructions traversal = global traversal followed by each function's traversal, in
order; so the global traversal is the prefix preceding the first function and each function contributes its slice. -/
theorem C15_all_eq : allInstIter m = globalInstIter m ++ m.functions.flatMap fnAllInstIter := by
  obtain ⟨⟨a1, _, a3, _⟩, ⟨_, _, b3, _⟩, _, _⟩ := parts
  simp only [allInstIter, globalInstIter, Module.allChain, Module.globalChain, a1, a3, b3, if_true]
  rfl

/-- **C15 (mutable twins).** Each mutable traversal visits the same sequence as its read-only counterpart. -/
theorem C15_mut : globalInstIterMut m = globalInstIter m ∧ allInstIterMut m = allInstIter m ∧
    ∀ f : Function ι, fnAllInstIterMut f = fnAllInstIter f := by
  obtain ⟨⟨a1, a2, a3, a4⟩, ⟨_, _, b3, b4⟩, ⟨c1, c2, c3, c4⟩, _⟩ := parts
  refine ⟨?_, ?_, ?_⟩
  · simp only [globalInstIterMut, globalInstIter, a1, a2]
  · simp only [allInstIterMut, allInstIter, a3, a4, b3, b4, c1, c2, c3, c4]
  · intro f; simp only [fnAllInstIterMut, fnAllInstIter, c1, c2, c3, c4]

/-- **C15 (assembly).** Assembling a module is the header words followed by the assembly of each instruction
visited by the all-instructions traversal, in the same order. -/
theorem C15_assemble : assemble asm m =
    (m.header.map (Header.asm asmHeader)).getD [] ++ (allInstIter m).flatMap asm := by
  obtain ⟨⟨a1, _, a3, _⟩, ⟨_, _, b3, _⟩, ⟨c1, _, c3, _⟩, ⟨d1, d2, d3, _⟩⟩ := parts
  simp only [assemble, allInstIter, d3, d2, d1, a3, b3, c1, c3, a1]
  exact Module.asm_eq asmHeader layout [0, 1, 2, 3] [0, 1] asm m

theorem C15_assemble_header {h : Header} (hm : m.header = some h) :
    assemble asm m = [h.magic, h.version, h.generator, h.bound, h.reserved] ++ (allInstIter m).flatMap asm := by
  rw [C15_assemble, hm, parts.2.2.2.2.2.2]
  rfl

/-- the traversal as the model chains it on the orders of this tree: the sections in layout order, then every function -/
theorem allInstIter_chain :
    allInstIter m = layout.flatMap m.sect ++ m.functions.flatMap (Function.chain [0, 1, 2, 3] [0, 1]) := by
  obtain ⟨⟨_, _, a3, _⟩, ⟨_, _, b3, _⟩, ⟨c1, _, c3, _⟩, _⟩ := parts
  rw [allInstIter, Module.allChain, a3, b3, c1, c3, if_pos rfl]

theorem chain_explicit (f : Function ι) : Function.chain [0, 1, 2, 3] [0, 1] f =
    f.def_.toList ++ f.params ++ f.blocks.flatMap (fun b => b.label.toList ++ b.insts) ++ f.end_.toList := by
  have hb : (Block.chain [0, 1] : Block ι → List ι) = fun b => b.label.toList ++ b.insts :=
    funext fun b => congrArg (b.label.toList ++ ·) (List.append_nil b.insts)
  simp only [Function.chain, List.flatMap_cons, List.flatMap_nil, List.append_nil, List.append_assoc, ← hb]
  rfl

/-- the traversal spelled out: sections in layout order, then per function def, parameters, each block's label
and instructions, end -/
theorem C15_explicit : allInstIter m =
    m.capabilities ++ m.extensions ++ m.extInstImports ++ m.memoryModel.toList ++ m.entryPoints ++
    m.executionModes ++ m.debugStringSource ++ m.debugNames ++ m.debugModuleProcessed ++ m.annotations ++
    m.typesGlobalValues ++
    m.functions.flatMap (fun f => f.def_.toList ++ f.params ++
      f.blocks.flatMap (fun b => b.label.toList ++ b.insts) ++ f.end_.toList) := by
  rw [allInstIter_chain, funext chain_explicit]
  simp only [layout, List.flatMap_cons, List.flatMap_nil, List.append_nil, List.append_assoc]
  rfl

/-- non-vacuity: a partial module (no header, a function without definition, a block without label) -/
def exBlock : Block Nat := ⟨none, [7, 8]⟩
def exFn : Function Nat := ⟨none, some 9, [6], [exBlock]⟩
def exModule : Module Nat := ⟨none, [1], [], [], some 2, [], [], [], [3], [4], [], [5], [exFn]⟩
example : allInstIter exModule = [1, 2, 3, 4, 5, 6, 7, 8, 9] := by decide +kernel
example : assemble (fun k => [k, k]) exModule = [1, 1, 2, 2, 3, 3, 4, 4, 5, 5, 6, 6, 7, 7, 8, 8, 9, 9] := by decide +kernel

end Rspirv.Props.C15
