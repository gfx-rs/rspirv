import Rspirv.Model.Storage
/-!
# C19 — storage tokens are stable handles to the appended values

All statements are for an arbitrary element type and an arbitrary Boolean equality (no reflexivity,
symmetry or transitivity assumed), and for every finite history of operations.
-/
namespace Rspirv.Props.C19
open Rspirv.Model.Storage

variable {α : Type} (eq : α → α → Bool)

/-- an append returns the old length as token, and looking that token up yields the appended value -/
theorem append_token (s : List α) (v : α) :
    (append s v).2 = s.length ∧ (append s v).1[(append s v).2]? = some v := by
  simp [append]

theorem position_eq_some_iff (s : List α) (v : α) (i : Nat) :
    position eq s v = some i ↔
      ∃ hi : i < s.length, eq s[i] v = true ∧ ∀ j (hj : j < i), eq (s[j]'(Nat.lt_trans hj hi)) v = false := by
  simp only [position, List.findIdx?_eq_some_iff_getElem, Bool.not_eq_true]

theorem position_eq_none_iff (s : List α) (v : α) : position eq s v = none ↔ ∀ x ∈ s, eq x v = false := by
  simp only [position, List.findIdx?_eq_none_iff]

/-- `fetch_or_append` returns the index of the FIRST stored value equal to the argument, leaving the storage
unchanged, when such a value exists -/
theorem fetch_first (s : List α) (v : α) (i : Nat) (hi : i < s.length) (hv : eq s[i] v = true)
    (hmin : ∀ j (hj : j < i), eq (s[j]'(Nat.lt_trans hj hi)) v = false) :
    fetchOrAppend eq s v = (s, i) := by
  rw [fetchOrAppend, (position_eq_some_iff eq s v i).2 ⟨hi, hv, hmin⟩]

/-- ... and appends (fresh token = old length) when no stored value is equal to the argument -/
theorem fetch_absent (s : List α) (v : α) (h : ∀ x ∈ s, eq x v = false) :
    fetchOrAppend eq s v = (s ++ [v], s.length) := by
  rw [fetchOrAppend, (position_eq_none_iff eq s v).2 h, append]

/-- conversely the result of `fetch_or_append` is always one of the two cases above -/
theorem fetch_cases (s : List α) (v : α) :
    (∃ i, ∃ hi : i < s.length, eq s[i] v = true ∧ (∀ j (hj : j < i), eq (s[j]'(Nat.lt_trans hj hi)) v = false) ∧
        fetchOrAppend eq s v = (s, i)) ∨
    ((∀ x ∈ s, eq x v = false) ∧ fetchOrAppend eq s v = (s ++ [v], s.length)) := by
  fun_cases fetchOrAppend eq s v
  case case1 i h =>
    obtain ⟨hi, hv, hmin⟩ := (position_eq_some_iff eq s v i).1 h
    exact .inl ⟨i, hi, hv, hmin, rfl⟩
  case case2 h => exact .inr ⟨(position_eq_none_iff eq s v).1 h, rfl⟩

/-- every step only extends the storage: earlier tokens keep designating their values -/
theorem step_extends (s : List α) (op : Op α) : ∃ suf, (step eq s op).1 = s ++ suf ∧ suf.length ≤ 1 := by
  fun_cases step eq s op
  case case1 v => exact ⟨[v], rfl, Nat.le_refl _⟩
  case case2 v =>
    fun_cases fetchOrAppend eq s v
    · exact ⟨[], (List.append_nil s).symm, Nat.zero_le _⟩
    · exact ⟨[v], rfl, Nat.le_refl _⟩

theorem step_stable (s : List α) (op : Op α) (i : Nat) (hi : i < s.length) :
    (step eq s op).1[i]? = s[i]? := by
  obtain ⟨suf, h, _⟩ := step_extends eq s op
  rw [h, List.getElem?_append_left hi]

theorem step_token_valid (s : List α) (op : Op α) : (step eq s op).2 < (step eq s op).1.length := by
  fun_cases step eq s op
  case case1 v => simp [append]
  case case2 v =>
    rcases fetch_cases eq s v with ⟨i, hi, _, _, e⟩ | ⟨_, e⟩ <;> rw [e]
    · exact hi
    · simp

/-- number of operations of a history that append a value, given the starting storage -/
def appended : List α → List (Op α) → Nat
  | _, [] => 0
  | s, op :: ops => ((step eq s op).1.length - s.length) + appended (step eq s op).1 ops

/-- **C19 (histories).** For every history from every storage: the final storage extends the initial one (so
every earlier token still yields its value); its length is the initial length plus the number of appending
operations (indices are dense in insertion order: the n-th appended value has index `s.length + n - 1`);
and every returned token designates a stored value. -/
theorem C19_run (s : List α) (ops : List (Op α)) :
    (∃ suf, (run eq s ops).1 = s ++ suf) ∧
    (run eq s ops).1.length = s.length + appended eq s ops ∧
    (∀ t ∈ (run eq s ops).2, t < (run eq s ops).1.length) := by
  induction ops generalizing s with
  | nil => exact ⟨⟨[], (List.append_nil s).symm⟩, rfl, fun _ h => nomatch h⟩
  | cons op ops ih =>
    obtain ⟨⟨suf2, h2⟩, hl, ht⟩ := ih (step eq s op).1
    obtain ⟨suf1, h1, _⟩ := step_extends eq s op
    have hle : (step eq s op).1.length ≤ (run eq (step eq s op).1 ops).1.length := by simp [h2]
    have hge : s.length ≤ (step eq s op).1.length := by simp [h1]
    -- `run` and `appended` unfold by one step
    exact ⟨⟨suf1 ++ suf2, h2.trans (by rw [h1, List.append_assoc])⟩, hl.trans (by rw [appended]; omega),
      List.forall_mem_cons.2 ⟨Nat.lt_of_lt_of_le (step_token_valid eq s op) hle, ht⟩⟩

/-- **C19 (freshness).** A token returned by an append was never returned before: all earlier tokens are
below the length at the time of the append, and the append returns exactly that length. -/
theorem C19_fresh (s : List α) (ops : List (Op α)) (v : α) :
    let r := run eq s ops
    (append r.1 v).2 = r.1.length ∧ ∀ t ∈ r.2, t ≠ (append r.1 v).2 := by
  intro r
  exact ⟨rfl, fun t ht => Nat.ne_of_lt ((C19_run eq s ops).2.2 t ht)⟩

/-- **C19 (stability over histories).** A token valid before a history yields the same value after it. -/
theorem C19_stable (s : List α) (ops : List (Op α)) (i : Nat) (hi : i < s.length) :
    (run eq s ops).1[i]? = s[i]? := by
  obtain ⟨suf, h⟩ := (C19_run eq s ops).1
  rw [h, List.getElem?_append_left hi]

/-- non-vacuity: an irreflexive equality (NaN-like): two fetches of the same value append twice -/
example : (run (fun (_ _ : Nat) => false) [] [.fetch 7, .fetch 7]) = ([7, 7], [0, 1]) := by decide
example : (run (fun (a b : Nat) => a == b) [] [.append 7, .append 7, .fetch 7, .fetch 8]) = ([7, 7, 8], [0, 1, 0, 2]) := by
  decide

end Rspirv.Props.C19
