import Rspirv.Props.C01Words
import Rspirv.Props.ParserErr
/-!
# What a successful run of the recogniser says

Routine by routine (`str_inv` … `oneReads_inv`, `loop_inv`, `inst_inv`): a successful run of the recogniser `Spec`
returns a value of the typing judgement of `Model/Typed.lean`, and the words it consumed are an encoding of that value
(`Reads` of `Props/C01Words.lean`: the assembler's encoding up to the bytes behind a string's NUL). The first halves say
that an instruction the recogniser delivers conforms, provided its encoding fits the 16-bit word count
(`spec_typed_len`; with `Props/C02Typed.lean`, the other direction, this is `typed_iff` of `Props/C02TypedInst.lean`);
the second halves, that it was read from an encoding of itself (`inst_words`, and `parseInst_words` for the parser
model). A run on no words returns nothing (`Reads.of_nil`).
-/
namespace Rspirv.Props.C02TypedConv
open Rspirv Rspirv.Model Rspirv.Model.DState Rspirv.Model.Typed Rspirv.Props.C02 Rspirv.Props.C04 Rspirv.Props.C01Words

theorem str_inv {ws bs rest : List Nat} (h : Spec.str ws = some (bs, rest)) : StrOk bs ∧ Reads ws [.s bs] rest := by
  obtain ⟨nul, hf, hutf, rfl, rfl⟩ := Spec.str_some.1 h
  obtain ⟨hnl, hz, hmin⟩ := List.findIdx?_eq_some_iff_getElem.1 hf
  have hlen := List.length_take_of_le (Nat.le_of_lt hnl)
  refine ⟨⟨fun b hb => flatMap_wordBytes_lt ws b (List.mem_of_mem_take hb), fun b hb => ?_, hutf⟩,
    .op (nul / 4 + 1) ⟨?_, ?_⟩⟩
  · obtain ⟨j, hj, rfl⟩ := List.mem_iff_getElem.1 hb
    rw [hlen] at hj
    simpa using hmin j hj
  · rw [flatMap_wordBytes_length] at hnl
    rw [hlen, List.length_take_of_le (Nat.div_lt_of_lt_mul hnl)]
  · -- the bytes of the consumed words, cut after the terminator, are the string and the NUL
    rw [flatMap_wordBytes_take, hlen, List.take_take, Nat.min_eq_left (Nat.lt_mul_div_succ nul (by decide)),
      List.take_succ_eq_append_getElem hnl, eq_of_beq hz]

theorem str_conv (ws bs rest : List Nat) (h : Spec.str ws = some (bs, rest)) : StrOk bs :=
  (str_inv h).1

variable {G : Tables}

theorem elem_inv (hex : EnumsExact G) {e : Elem} {ws rest : List Nat} {o : Operand} :
    Spec.elem G e ws = some (o, rest) → ElemT G e o ∧ Reads ws [o] rest := by
  fun_cases Spec.elem G e ws <;> intro h <;> cases h
  next h0 w E hE _ hv =>
    obtain rfl := (EnumSpec.fromU32_exact E (hex E (List.mem_of_getElem? hE)) w).2 _ hv
    exact ⟨⟨rfl, by rw [if_pos h0]; exact ⟨E, hE, hv⟩⟩, .word ..⟩
  next h0 h1 w M hM _ hv =>
    obtain rfl := (M.fromBits_exact w).2 _ hv
    exact ⟨⟨rfl, by rw [if_neg h0, if_pos h1]; exact ⟨M, hM, hv⟩⟩, .word ..⟩
  next h0 h1 h2 w => exact ⟨⟨rfl, by rw [if_neg h0, if_neg h1]; exact h2⟩, .word ..⟩
  next h0 h1 h2 bs hs =>
    exact ⟨⟨Bool.eq_false_iff.2 h0, Bool.eq_false_iff.2 h1, Bool.eq_false_iff.2 h2, (str_inv hs).1⟩, (str_inv hs).2⟩

theorem elems_inv (hex : EnumsExact G) {es : List Elem} {ws rest : List Nat} {os : List Operand} :
    Spec.elems G es ws = some (os, rest) → ElemsT G es os ∧ Reads ws os rest := by
  fun_induction Spec.elems G es ws generalizing os rest <;> intro h <;> cases h
  · exact ⟨.nil, .nil⟩
  next h1 _ _ h2 ih => exact ⟨.cons (elem_inv hex h1).1 (ih h2).1, (elem_inv hex h1).2.seq (ih h2).2⟩

theorem operand_inv (hex : EnumsExact G) {k : Nat} {ws rest : List Nat} {os : List Operand}
    (h : Spec.operand G k ws = some (os, rest)) : OperandT G k os ∧ Reads ws os rest := by
  rw [Spec.operand_eq] at h
  unfold OperandT
  cases ha : G.kindActs[k]? with
  | none => rw [ha] at h; cases h
  | some act =>
    rw [ha] at h
    cases act with
    | panics => cases h
    | elems es => exact elems_inv hex h
    | maskParams e rows | enumParams e rows =>
      obtain ⟨v, t, ps, h1, h2, rfl⟩ := Spec.withParams_some.1 h
      obtain ⟨t1, r1⟩ := elem_inv hex h1
      obtain ⟨t2, r2⟩ := elems_inv hex h2
      exact ⟨⟨v, ps, rfl, t1, t2⟩, r1.seq r2⟩

theorem literal_inv {τ : Tracker} {ty : Nat} {ws rest : List Nat} {o : Operand}
    (h : Spec.literal G τ ty ws = some (o, rest)) : LiteralT G τ ty o ∧ Reads ws [o] rest := by
  obtain ⟨hs, ht⟩ | ⟨hs, ht⟩ | ⟨hs, -⟩ := literal_mode G τ ty <;> rw [hs] at h
  · obtain ⟨w, rfl, rfl⟩ := Spec.lit1_some.1 h
    exact ⟨(ht _).2 ⟨w, rfl⟩, .word ..⟩
  · obtain ⟨lo, hi, rfl, rfl⟩ := Spec.lit2_some.1 h
    exact ⟨(ht _).2 ⟨_, rfl, q_lt (by decide) lo hi⟩, .op 2 ⟨lo, hi, rfl, rfl⟩⟩
  · cases h

theorem many_inv (hex : EnumsExact G) {k fuel : Nat} {ws : List Nat} {os : List Operand} :
    Spec.many G k fuel ws = some os → ManyT G k os ∧ Reads ws os [] := by
  fun_induction Spec.many G k fuel ws generalizing os <;> intro h <;> cases h
  next hws => exact ⟨.nil, List.isEmpty_iff.1 hws ▸ .nil⟩
  next h1 _ h2 ih => exact ⟨.cons (operand_inv hex h1).1 (ih h2).1, (operand_inv hex h1).2.seq (ih h2).2⟩

/-- the run ends with the words when an optional operand is absent or a variadic one has taken them all: what follows reads
nothing (`Reads.of_nil` of the induction hypothesis) -/
theorem nested_inv (hex : EnumsExact G) {ops : List (Nat × Nat)} {ws rest : List Nat} {os : List Operand}
    (h : Spec.nested G ops ws = some (os, rest)) : NestedT G ops os ∧ Reads ws os rest := by
  induction ops generalizing ws os with
  | nil => obtain ⟨rfl, rfl⟩ := Spec.nested_nil_some.1 h; exact ⟨.nil, .nil⟩
  | cons o ops ih =>
    obtain ⟨k, q⟩ := o
    cases hres : (k == G.kIdResultType || k == G.kIdResult)
    case true =>
      rw [Spec.nested_res hres] at h
      exact ⟨.res hres (ih h).1, (ih h).2⟩
    obtain ⟨g, t, more, hh, h2, rfl⟩ := (Spec.nested_cons_some hres).1 h
    obtain ⟨t2, r2⟩ := ih h2
    obtain ⟨hq, h1⟩ | ⟨hq0, hq1, rfl, rfl, rfl⟩ | ⟨hq0, hq1, -, h1⟩ | ⟨hq0, hq1, h1, rfl⟩ := Spec.nestedHere_some.1 hh
    · obtain ⟨t1, r1⟩ := operand_inv hex h1
      exact ⟨.one hres hq t1 t2, r1.seq r2⟩
    · obtain ⟨rfl, rfl⟩ := r2.of_nil
      exact ⟨.optNone hres hq0 hq1 t2, .nil⟩
    · obtain ⟨t1, r1⟩ := operand_inv hex h1
      exact ⟨.optSome hres hq0 hq1 t1 t2, r1.seq r2⟩
    · obtain ⟨t1, r1⟩ := many_inv hex h1
      obtain ⟨rfl, rfl⟩ := r2.of_nil
      rw [List.append_nil]
      exact ⟨.many hres hq0 hq1 t1 t2, r1⟩

theorem specOp_inv (hex : EnumsExact G) {ws rest : List Nat} {os : List Operand}
    (h : Spec.specOp G ws = some (os, rest)) : SpecOpT G os ∧ Reads ws os rest := by
  obtain ⟨e, t, os', rfl, h16, hlook, hctx, hn, rfl⟩ := Spec.specOp_some.1 h
  obtain ⟨t2, r2⟩ := nested_inv hex hn
  exact ⟨⟨e, os', rfl, h16, hlook, hctx, t2⟩, (Reads.word ..).seq r2⟩

/-- one logical operand other than a result kind: `Spec.oneReads` and `OneT` branch alike, and each branch of the one is the
recogniser's counterpart of the branch of the other -/
theorem oneReads_inv (hex : EnumsExact G) {τ : Tracker} {opcode k : Nat} {a : Acc}
    {ws t : List Nat} {g : List Operand} (h : Spec.oneReads G τ opcode k a ws g t) :
    OneT G τ opcode a.rtype a.ops k g ∧ Reads ws g t :=
  ite_imp_and (fun _ ⟨hop, ty, o, hty, hg, hl⟩ => ⟨⟨hop, ty, o, hty, hg, (literal_inv hl).1⟩, hg ▸ (literal_inv hl).2⟩)
    (fun _ => ite_imp_and (fun _ ⟨hop, sel, tl, lit, tgt, hpre, hg, hl⟩ =>
        ⟨⟨hop, sel, tl, lit, tgt, hpre, hg, (literal_inv hl).1⟩, hg ▸ (literal_inv hl).2.seq (.word ..)⟩)
      fun _ => ite_imp_and (fun _ => specOp_inv hex) fun _ => operand_inv hex) h

theorem loop_inv (hex : EnumsExact G) {τ : Tracker} {opcode fuel : Nat} {ops : List (Nat × Nat)} {a a' : Acc}
    {ws rest : List Nat} (h : Spec.loop G τ opcode fuel ops a ws = some (a', rest)) (hnr : NoRes G ops) :
    ∃ os, a' = { a with ops := a.ops ++ os } ∧ LoopT G τ opcode a.rtype ops a.ops os ∧ Reads ws os rest := by
  induction fuel generalizing ops a ws with
  | zero => rw [Spec.loop_zero] at h; cases h
  | succ fuel ih =>
    rcases ops with _ | ⟨⟨k, q⟩, ops⟩
    · rw [Spec.loop_nil] at h; cases h
      exact ⟨[], by simp, .nil, .nil⟩
    obtain ⟨rfl, hq, h⟩ | ⟨-, a1, t, h1, h2⟩ := Spec.loop_cons_some.1 h
    · cases h; exact ⟨[], by simp, .stop hq, .nil⟩
    · obtain ⟨k1, k2⟩ := hnr (k, q) List.mem_cons_self
      obtain ⟨g, hg, rfl⟩ := (Spec.one_some k1 k2).1 h1
      obtain ⟨hone, r1⟩ := oneReads_inv hex hg
      obtain ⟨os, rfl, hl, r2⟩ := ih h2 (by split; exact hnr; exact hnr.tail)
      refine ⟨g ++ os, by simp, ?_, r1.seq r2⟩
      split at hl
      · exact .rep ‹_› hone hl
      · exact .step (by simpa using ‹¬(q == 2) = true›) hone hl

/-- the typing half of `loop_inv`; `hc` is not used -/
theorem loop_conv (G : Tables) (hc : coreKindsOk G = true) (hex : EnumsExact G) (τ : Tracker) (opcode : Nat) :
    ∀ (fuel : Nat) (ops : List (Nat × Nat)) (a a' : Acc) (ws : List Nat),
    Spec.loop G τ opcode fuel ops a ws = some (a', []) → NoRes G ops →
    ∃ os, a' = { a with ops := a.ops ++ os } ∧ LoopT G τ opcode a.rtype ops a.ops os :=
  fun _ _ _ _ _ h hnr => let ⟨os, e, hl, _⟩ := loop_inv hex h hnr; ⟨os, e, hl⟩

/-- `loop_inv` with the result kinds still ahead (`LeadOk`, the accumulator holding no operand yet): their words `lead` come
first and fill the result type and result id -/
theorem loop_lead_inv (hex : EnumsExact G) (hne : (G.kIdResult == G.kIdResultType) = false) {τ : Tracker} {opcode : Nat} :
    ∀ (fuel : Nat) (ops : List (Nat × Nat)) (a a' : Acc) (ws rest : List Nat),
    Spec.loop G τ opcode fuel ops a ws = some (a', rest) → LeadOk G ops a → a.ops = [] →
    a'.rtype.isSome = (a.rtype.isSome || ops.any fun o => o.1 == G.kIdResultType) ∧
    a'.rid.isSome = (a.rid.isSome || ops.any fun o => o.1 == G.kIdResult) ∧
    LoopT G τ opcode a'.rtype (ops.filter fun o => !isRes G o.1) [] a'.ops ∧
    ∃ lead t, ws = lead ++ t ∧ Reads t a'.ops rest ∧
      a'.rtype.toList ++ a'.rid.toList = a.rtype.toList ++ a.rid.toList ++ lead := by
  intro fuel
  induction fuel with
  | zero => intro ops a a' ws rest h; rw [Spec.loop_zero] at h; cases h
  | succ fuel ih =>
    intro ops a a' ws rest h hlead hops
    by_cases hnr : NoRes G ops
    · obtain ⟨os, rfl, hl, hr⟩ := loop_inv hex h hnr
      rw [noRes_filter hnr, (noRes_any hnr).1, (noRes_any hnr).2]
      simp only [hops, List.nil_append] at hl ⊢
      exact ⟨by simp, by simp, hl, [], ws, rfl, hr, by simp⟩
    rcases ops with _ | ⟨⟨k, q⟩, ops⟩
    · exact (hnr fun _ h => nomatch h).elim
    obtain ⟨k1, k2, rfl, e1, e2, -, hl'⟩ | ⟨k1, k2, rfl, e2, -, hnr'⟩ | hnr' := leadOk_cons hne hlead
    · obtain ⟨-, hq, -⟩ | ⟨-, a1, t, h1, h2⟩ := Spec.loop_cons_some.1 h
      · cases hq
      · obtain ⟨w, rfl, rfl⟩ := (Spec.one_rtype_some k1).1 h1
        obtain ⟨r1, r2, r3, lead, t', rfl, hr, hw⟩ := ih ops _ a' t rest h2 (hl' w) hops
        exact ⟨by simpa [k1] using r1, by simpa [k2] using r2, by simpa [List.filter_cons, isRes, k1] using r3,
          w :: lead, t', rfl, hr, by simpa [e1, e2] using hw⟩
    · obtain ⟨-, hq, -⟩ | ⟨-, a1, t, h1, h2⟩ := Spec.loop_cons_some.1 h
      · cases hq
      · obtain ⟨w, rfl, rfl⟩ := (Spec.one_rid_some k1 k2).1 h1
        obtain ⟨r1, r2, r3, lead, t', rfl, hr, hw⟩ := ih ops _ a' t rest h2 (leadOk_of_noRes hnr') hops
        exact ⟨by simpa [k1] using r1, by simpa [k2] using r2, by simpa [List.filter_cons, isRes, k2] using r3,
          w :: lead, t', rfl, hr, by simpa [e2] using hw⟩
    · exact (hnr hnr').elim

/-- the result kinds in front: the typing half of `loop_lead_inv`; `hc` is not used -/
theorem lead_conv (G : Tables) (hc : coreKindsOk G = true) (hex : EnumsExact G)
    (hne : (G.kIdResult == G.kIdResultType) = false) (τ : Tracker) (opcode : Nat) (ops : List (Nat × Nat)) (a : Acc)
    (ws : List Nat) (hlead : LeadOk G ops ⟨none, none, []⟩) :
    ∀ fuel, Spec.loop G τ opcode fuel ops ⟨none, none, []⟩ ws = some (a, []) →
      a.rtype.isSome = ops.any (fun o => o.1 == G.kIdResultType) ∧
      a.rid.isSome = ops.any (fun o => o.1 == G.kIdResult) ∧
      LoopT G τ opcode a.rtype (ops.filter (fun o => !isRes G o.1)) [] a.ops :=
  fun fuel h => let ⟨h1, h2, h3, _⟩ := loop_lead_inv hex hne fuel ops _ a ws [] h hlead rfl; ⟨h1, h2, h3⟩

theorem inst_inv (good : GoodTables G) {τ : Tracker} {ws rest : List Nat} {i : Inst} (h : Spec.inst G τ ws = some (i, rest)) :
    ((assembleInst i).length < 65536 → InstT G τ i) ∧ ∃ used, ws = used ++ rest ∧ InstWords i used := by
  obtain ⟨w0, t, e, a, rfl, hwc, hlook, hfit, hl, rfl, rfl⟩ := Spec.inst_some.1 h
  obtain ⟨hmem, hop⟩ := lookupOpcode_some _ _ _ hlook
  obtain ⟨r1, r2, r3, lead, t', e1, hr, hu⟩ := loop_lead_inv good.enums good.distinct _ e.ops _ a _ [] hl
    (leadOk_of_resultsLead (good.lead e hmem)) rfl
  refine ⟨fun hlen => ⟨e, by rw [hop]; exact hlook, r1, r2, r3, hlen⟩, ?_⟩
  simp only [List.nil_append, List.append_nil, Option.toList_none] at e1 hu
  refine ⟨w0 :: t.take (w0 / 65536 - 1), by simp, w0, t', by rw [e1, hu], ?_, hop.symm, Reads.all.1 hr⟩
  simp only [List.length_cons, List.length_take]; omega

/-- `spec_typed` with the bound on the word count as a hypothesis (`C01Layout.asm_len` discharges it for 32-bit words) -/
theorem spec_typed_len (G : Tables) (good : GoodTables G) (τ : Tracker) (ws : List Nat) (i : Inst) (rest : List Nat)
    (h : Spec.inst G τ ws = some (i, rest)) (hlen : (assembleInst i).length < 65536) : InstT G τ i :=
  (inst_inv good h).1 hlen

end Rspirv.Props.C02TypedConv

namespace Rspirv.Props.C01Words
open Rspirv Rspirv.Model Rspirv.Model.DState Rspirv.Props.C02 Rspirv.Props.C02TypedConv

/-- **C01 (instruction level, recogniser).** What is accepted as instruction `i` is a prefix of the words with `InstWords i`. -/
theorem inst_words (G : Tables) (good : GoodTables G) (τ : Tracker) (ws : List Nat) (i : Inst) (rest : List Nat)
    (h : Spec.inst G τ ws = some (i, rest)) : ∃ used, ws = used ++ rest ∧ InstWords i used :=
  (inst_inv good h).2

/-- **C01 (instruction level, parser model).** Whenever `parse_inst` delivers `i` from a state between instructions that
views the stream words `w0 :: t`, the words it consumed are a prefix `used` of them with `InstWords i used`, and it stops in
front of the remaining words. With `assemble_words` and `instWords_agree`: assembling `i` gives those same words back, up
to the bytes after a string's NUL terminator. -/
theorem parseInst_words (G : Tables) (good : GoodTables G) (τ : Tracker) (idx : Nat) (B : List Nat) (d : DState) (w0 : Nat)
    (t : List Nat) (hv : Rspirv.Props.ParserSpec.SView B d (w0 :: t)) (i : Inst) (d' : DState)
    (h : parseInst G τ idx d = (.ok i, d')) :
    ∃ used rest, w0 :: t = used ++ rest ∧ InstWords i used ∧ Rspirv.Props.ParserSpec.SView B d' rest := by
  have href := Rspirv.Props.ParserSpec.parseInst_agrees G good.kinds τ idx d w0 t hv
  cases hs : Spec.inst G τ (w0 :: t) with
  | none => rw [hs] at href; exact absurd h (href i d')
  | some p =>
    obtain ⟨i2, rest⟩ := p
    rw [hs] at href
    obtain ⟨d2, h2, hv2⟩ := href
    rw [h] at h2
    cases h2
    obtain ⟨used, e1, w1⟩ := inst_words G good τ (w0 :: t) i rest hs
    exact ⟨used, rest, e1, w1, hv2⟩

end Rspirv.Props.C01Words
