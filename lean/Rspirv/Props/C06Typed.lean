import Rspirv.Props.C02TypedInst
import Rspirv.Props.C06End
/-!
# C06 with the grammar hypothesis stated instruction by instruction

`C06_roundtrip` asks that the traversal of the built module be a `GrammarStream` — a condition on the whole sequence, with
the type tracker threaded through it. For instructions whose grammar entry has no context-dependent operand (everything
but `OpConstant`, `OpSpecConstant`, `OpSpecConstantOp`, `OpSwitch`) conformance does not depend on the tracked types
(`instT_indep`), and a conforming instruction is always digestible by the tracker (`typed_track`). So it suffices that
**each instruction of the module conforms by its own fields** (`InstT0`): `typedAll_stream`, `C06_roundtrip_typed`.
-/
namespace Rspirv.Props.C06Typed
open Rspirv Rspirv.Model Rspirv.Model.DState Rspirv.Model.Typed Rspirv.Instances Rspirv.Props.C02 Rspirv.Props.C02Typed
  Rspirv.Props.C02TypedInst Rspirv.Props.RoundTrip Rspirv.Props.C06Round Rspirv.Props.C06End

/-- no context-dependent kind among the logical operands -/
def NoCtx (G : Tables) (ops : List (Nat × Nat)) : Prop := ∀ o ∈ ops, isCtxKind G o.1 = false

/-- for a kind that does not depend on context, one typed operand is a typed operand, whatever is tracked -/
theorem oneT_iff {G : Tables} {τ : Tracker} {opcode : Nat} {rt : Option Nat} {pre : List Operand} {k : Nat}
    {g : List Operand} (hk : isCtxKind G k = false) : OneT G τ opcode rt pre k g ↔ OperandT G k g := by
  simp only [isCtxKind, Bool.or_eq_false_iff] at hk
  unfold OneT
  simp only [hk.1.1, hk.1.2, hk.2, Bool.false_eq_true, if_false]

theorem loopT_indep (G : Tables) (τ τ' : Tracker) (opcode : Nat) (rt : Option Nat) {ops : List (Nat × Nat)}
    {pre os : List Operand} (h : LoopT G τ opcode rt ops pre os) : NoCtx G ops → LoopT G τ' opcode rt ops pre os := by
  induction h with
  | nil => intro _; exact LoopT.nil
  | stop hq => intro _; exact LoopT.stop hq
  | step hq hone _ ih =>
    intro hn
    have hk := hn _ List.mem_cons_self
    exact LoopT.step hq ((oneT_iff hk).2 ((oneT_iff hk).1 hone)) (ih (fun o ho => hn o (List.mem_cons_of_mem _ ho)))
  | rep hq hone _ ih =>
    intro hn
    have hk := hn _ List.mem_cons_self
    exact LoopT.rep hq ((oneT_iff hk).2 ((oneT_iff hk).1 hone)) (ih hn)

/-- conformance of an instruction whose entry has no context-dependent operand, whatever the tracked types -/
def InstT0 (G : Tables) (i : Inst) : Prop :=
  InstT G [] i ∧ ∀ e, lookupOpcode G.core i.opcode = some e → NoCtx G e.ops

theorem instT_indep (G : Tables) (τ : Tracker) (i : Inst) (h : InstT0 G i) : InstT G τ i := by
  obtain ⟨⟨e, hl, h1, h2, h3, h4⟩, hn⟩ := h
  refine ⟨e, hl, h1, h2, ?_, h4⟩
  exact loopT_indep G [] τ i.opcode i.rtype h3 (fun o ho => hn e hl o (List.mem_filter.1 ho).1)

/-- a conforming instruction (32-bit words) is digestible by the type tracker -/
theorem typed_track (τ : Tracker) (i : Inst) (h : InstT theTables τ i) (hw : WordsOk (assembleInst i)) :
    ∃ τ1, τ.track theTables.tt i = some τ1 := by
  -- not from the definition of `track`: the parser reads the encoding of `i` back as `i` (`C02_typed`), and it delivers no
  -- instruction it has not tracked (`parseInst_safe`)
  have ⟨_, _, _, _, _, hlen⟩ := h
  have hbl : ((assembleInst i ++ []).flatMap Spec.wordBytes).length < 2 ^ 63 := by
    rw [List.append_nil, Rspirv.Props.C02.flatMap_wordBytes_length]
    omega
  obtain ⟨d', hp, _⟩ := C02_typed τ 1 i h [] [] (by simpa using hw) (fun _ hb => nomatch hb) hbl
  have hsafe := Rspirv.Props.C04.parseInst_safe (G := theTables) Rspirv.Props.C04.tables_safe τ 1
    ⟨[] ++ (assembleInst i ++ []).flatMap Spec.wordBytes, ([] : List Nat).length, none⟩ (Nat.zero_le _) (by exact hbl) rfl
  exact Option.isSome_iff_exists.1 (hsafe.2.2.2 i (by rw [hp])).2.2

/-- instructions that conform one by one form a typed stream under any tracker -/
theorem typedAll_stream : ∀ (is : List Inst) (τ : Tracker),
    (∀ i ∈ is, InstT0 theTables i ∧ WordsOk (assembleInst i)) → TypedStream theTables τ is := by
  intro is
  induction is with
  | nil => exact fun _ _ => trivial
  | cons i t ih =>
    intro τ h
    obtain ⟨⟨h0, hw⟩, htl⟩ := List.forall_mem_cons.1 h
    have hi := instT_indep theTables τ i h0
    obtain ⟨τ1, ht⟩ := typed_track τ i hi hw
    exact ⟨hi, τ1, ht, ih τ1 htl⟩

/-- **C06, grammar hypothesis per instruction.** A complete plain history whose module consists of instructions that each
conform to the grammar by their own fields (entries without context-dependent operands) and assemble to 32-bit words:
`load_bytes(bytes(module.assemble())) = Ok(module)`. -/
theorem C06_roundtrip_typed (cs : List Call) (hp : PlainRun theLTables theBTables BState.new cs)
    (hc : (BState.run theBTables BState.new cs).1.selFn = none)
    (ht : ∀ i ∈ Rspirv.Props.C15.allInstIter ((BState.run theBTables BState.new cs).1.finish theBTables),
      InstT0 theTables i ∧ WordsOk (assembleInst i))
    (hw : WordsOk (Rspirv.Props.C15.assemble assembleInst ((BState.run theBTables BState.new cs).1.finish theBTables)))
    (hsmall : 4 * (Rspirv.Props.C15.assemble assembleInst ((BState.run theBTables BState.new cs).1.finish theBTables)).length < 2 ^ 63) :
    loadBytes theTables theLTables
        ((Rspirv.Props.C15.assemble assembleInst ((BState.run theBTables BState.new cs).1.finish theBTables)).flatMap Spec.wordBytes) =
      .ok ((BState.run theBTables BState.new cs).1.finish theBTables) :=
  (C06_roundtrip cs hp hc (typedStream_grammar theTables typed_tables _ [] (typedAll_stream _ [] ht)) hw hsmall).1

/-! ### from typed argument groups to a conforming instruction -/

/-- the operand groups the slots of a Builder method contribute, against the logical operands of the entry: a required
operand gets one occurrence of its kind, an optional one gets one or nothing, a variadic one a run; after an absent
optional operand or a variadic one nothing more is contributed -/
inductive GroupsT (G : Tables) : List (Nat × Nat) → List (List Operand) → Prop
  | nil : GroupsT G [] []
  | one {k q : Nat} {ops : List (Nat × Nat)} {g : List Operand} {gs : List (List Operand)} :
      (q == 2) = false → OperandT G k g → GroupsT G ops gs → GroupsT G ((k, q) :: ops) (g :: gs)
  | absent {k q : Nat} {ops : List (Nat × Nat)} {gs : List (List Operand)} :
      (q == 0) = false → (∀ x ∈ gs, x = []) → GroupsT G ((k, q) :: ops) ([] :: gs)
  | many {k q : Nat} {ops : List (Nat × Nat)} {g : List Operand} {gs : List (List Operand)} :
      (q == 2) = true → ManyT G k g → (∀ x ∈ gs, x = []) → GroupsT G ((k, q) :: ops) (g :: gs)

theorem many_loopT (G : Tables) (τ : Tracker) (opcode : Nat) (rt : Option Nat) (k q : Nat) (rest : List (Nat × Nat))
    (hq : (q == 2) = true) (hk : isCtxKind G k = false) {g : List Operand} (h : ManyT G k g) :
    ∀ pre, LoopT G τ opcode rt ((k, q) :: rest) pre g := by
  induction h with
  | nil =>
    intro pre
    exact LoopT.stop (by
      have := eq_of_beq hq
      subst this
      rfl)
  | cons hg _ ih =>
    intro pre
    exact LoopT.rep hq ((oneT_iff hk).2 hg) (ih _)

theorem groups_loopT (G : Tables) (τ : Tracker) (opcode : Nat) (rt : Option Nat) {ops : List (Nat × Nat)}
    {gs : List (List Operand)} (h : GroupsT G ops gs) : NoCtx G ops → ∀ pre, LoopT G τ opcode rt ops pre gs.flatten := by
  induction h with
  | nil => intro _ pre; exact LoopT.nil
  | one hq hg _ ih =>
    intro hn pre
    rw [List.flatten_cons]
    exact LoopT.step hq ((oneT_iff (hn _ List.mem_cons_self)).2 hg) (ih (fun o ho => hn o (List.mem_cons_of_mem _ ho)) _)
  | absent hq hnil =>
    intro _ pre
    rw [List.flatten_cons, List.flatten_eq_nil_iff.2 hnil]
    exact LoopT.stop hq
  | many hq hm hnil =>
    intro hn pre
    rw [List.flatten_cons, List.flatten_eq_nil_iff.2 hnil, List.append_nil]
    exact many_loopT G τ opcode rt _ _ _ hq (hn _ List.mem_cons_self) hm pre

/-- **a Builder call with typed argument groups emits a conforming instruction.** Let `e` be the grammar entry of
`opcode`, without context-dependent operands. If the operand list is the concatenation of groups typed for the entry's
logical operands (other than the result kinds), a result type is given exactly when the entry lists one, a result id
exactly when the entry lists one, and the encoding fits the 16-bit word count, then the instruction conforms to the
grammar whatever types are tracked (`InstT0`). With `C06_roundtrip_typed`: a complete plain history of such calls
survives assemble-then-load unchanged. -/
theorem call_typed (G : Tables) (opcode : Nat) (rt rid : Option Nat) (e : Entry) (gs : List (List Operand))
    (hl : lookupOpcode G.core opcode = some e) (hn : NoCtx G e.ops)
    (hrt : rt.isSome = e.ops.any (fun o => o.1 == G.kIdResultType))
    (hrid : rid.isSome = e.ops.any (fun o => o.1 == G.kIdResult))
    (hg : GroupsT G (e.ops.filter (fun o => !isRes G o.1)) gs)
    (hlen : (assembleInst ⟨opcode, rt, rid, gs.flatten⟩).length < 65536) :
    InstT0 G ⟨opcode, rt, rid, gs.flatten⟩ := by
  refine ⟨⟨e, hl, hrt, hrid, ?_, hlen⟩, ?_⟩
  · exact groups_loopT G [] opcode rt hg (fun o ho => hn o (List.mem_filter.1 ho).1) []
  · intro e' hl'
    rw [hl] at hl'
    cases hl'
    exact hn

/-- what the slots of a generated method contribute is the concatenation of the per-slot groups -/
theorem collect_flatten {α : Type} : ∀ (l : List (Option (List α))) (ops : List α), collect l = some ops →
    ∃ gs : List (List α), l = gs.map some ∧ ops = gs.flatten := by
  intro l
  fun_induction collect l with
  | case1 => intro ops h; cases h; exact ⟨[], rfl, rfl⟩
  | case2 => intro ops h; cases h
  | case3 g t ih =>
    intro ops h
    obtain ⟨r, hr, rfl⟩ := Option.map_eq_some_iff.1 h
    obtain ⟨gs, rfl, rfl⟩ := ih r hr
    exact ⟨g :: gs, rfl, rfl⟩

/-- non-vacuity: `type_int(32, 0)` with result id 1 — two typed groups, one per required literal — emits a conforming
instruction -/
example : InstT0 theTables ⟨21, none, some 1, [[Operand.w 59 32], [Operand.w 59 0]].flatten⟩ := by
  have hl : lookupOpcode theTables.core 21 = some ⟨95835015724232308, 21, [], [], [(57, 0), (61, 0), (61, 0)]⟩ := by
    decide +kernel
  have hk : theTables.kindActs[61]? = some (.elems [⟨59, 2, 0, 0⟩]) := by decide +kernel
  have op : ∀ x, OperandT theTables 61 [.w 59 x] := by
    intro x
    unfold OperandT
    rw [hk]
    exact ElemsT.cons ⟨rfl, by simp⟩ ElemsT.nil
  refine call_typed theTables 21 none (some 1) _ _ hl ?_ (by decide +kernel) (by decide +kernel) ?_ (by decide)
  · intro o ho
    have : ([(57, 0), (61, 0), (61, 0)] : List (Nat × Nat)).all (fun o => !isCtxKind theTables o.1) = true := by
      decide +kernel
    simpa using (List.all_eq_true.1 this) o ho
  · have hf : ([(57, 0), (61, 0), (61, 0)] : List (Nat × Nat)).filter (fun o => !isRes theTables o.1) = [(61, 0), (61, 0)] := by
      decide +kernel
    rw [hf]
    exact GroupsT.one rfl (op 32) (GroupsT.one rfl (op 0) GroupsT.nil)

end Rspirv.Props.C06Typed
