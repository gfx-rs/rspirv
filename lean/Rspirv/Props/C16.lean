import Rspirv.Generated.Grammar
import Rspirv.Generated.Extracted
import Rspirv.Generated.Findings
import Rspirv.Reference.SpecClass
/-!
# C16 — opcode classification predicates agree with the SPIR-V specification

`reflectTable` is the complete graph of the 12 predicates of `grammar/reflect.rs` on every opcode of the
core table, dumped by executing the real functions (extraction, DESIGN §4.2). `SpecClass` is the
authored reference. `c16KnownGaps` lists the (predicate, opcode) pairs recorded in
`known_findings.json` that are still present in the tree; it is empty when there are none, and then the
theorems below are the full statement.
-/
namespace Rspirv.Props.C16
open Rspirv Rspirv.Generated.Extracted Rspirv.Generated.Grammar Rspirv.Reference

/-- opcodes on which predicate number `i` answers true -/
def sel (i : Nat) : List Nat := reflectTable.filterMap (fun r => if r.2.testBit i then some r.1 else none)

/-- reference class minus recorded gaps of predicate `i` -/
def expected (i : Nat) (cls : List Nat) : List Nat :=
  cls.filter (fun o => !(Rspirv.Generated.Findings.c16KnownGaps.contains (i, o)))

def sortedUnion (a b : List Nat) : List Nat := sortNat (a ++ b)

def coversOk : Bool := reflectTable.map (·.1) == coreTable.map (·.opcode)

/-- the base predicates, by their bit in a row of `reflectTable`, and their reference classes in the same order -/
def baseBits : List Nat := [0, 1, 3, 4, 5, 6, 7, 8, 10]

def specClasses : List (List Nat) :=
  [SpecClass.locationDebug, SpecClass.nonLocationDebug, SpecClass.annotation, SpecClass.typeDecl, SpecClass.constant,
   SpecClass.variableDef, SpecClass.ret, SpecClass.abort, SpecClass.branch]

/-- `baseBits.map sel` in one pass over the table (most opcodes answer false to every predicate and are skipped) -/
def buckets : List (Nat × Nat) → List (List Nat)
  | [] => baseBits.map (fun _ => [])
  | r :: t => if r.2 == 0 then buckets t else
      (baseBits.zip (buckets t)).map (fun p => if r.2.testBit p.1 then r.1 :: p.2 else p.2)

theorem zip_map_self {α β γ : Type} (f : α → β) (g : α × β → γ) : ∀ l : List α,
    (l.zip (l.map f)).map g = l.map (fun i => g (i, f i))
  | [] => rfl
  | a :: t => by simp [zip_map_self f g t]

theorem buckets_eq (l : List (Nat × Nat)) :
    buckets l = baseBits.map (fun i => l.filterMap (fun r => if r.2.testBit i then some r.1 else none)) := by
  fun_induction buckets l with
  | case1 => rfl
  | case2 r t h0 ih => simp [ih, eq_of_beq h0]
  | case3 r t _ ih =>
    rw [ih, zip_map_self]
    exact List.map_congr_left fun i _ => by cases h : r.2.testBit i <;> simp [h]

/-- every base predicate answers true exactly on its class (minus recorded gaps) -/
def classesOk : Bool := buckets reflectTable == (baseBits.zip specClasses).map (fun p => sortNat (expected p.1 p.2))

/-- the derived predicates and the disjointness of the base classes on one row; a row that answers false throughout (most
do) passes without its bits being looked at -/
def rowOk (r : Nat × Nat) : Bool :=
  r.2 == 0 ||
  (r.2.testBit 2 == (r.2.testBit 0 || r.2.testBit 1)) &&
  (r.2.testBit 9 == (r.2.testBit 7 || r.2.testBit 8)) &&
  (r.2.testBit 11 == (r.2.testBit 10 || r.2.testBit 9)) &&
  decide (((r.2.testBit 0).toNat + (r.2.testBit 1).toNat + (r.2.testBit 3).toNat + (r.2.testBit 4).toNat +
           (r.2.testBit 5).toNat + (r.2.testBit 6).toNat + (r.2.testBit 7).toNat + (r.2.testBit 8).toNat +
           (r.2.testBit 10).toNat) ≤ 1)

theorem covers_ok : coversOk = true := by decide +kernel
theorem classes_ok : classesOk = true := by decide +kernel
theorem rows_ok : reflectTable.all rowOk = true := by decide +kernel

theorem mem_sel (i o : Nat) : o ∈ sel i ↔ ∃ r ∈ reflectTable, r.1 = o ∧ r.2.testBit i = true := by
  simp only [sel, List.mem_filterMap, Option.ite_none_right_eq_some, Option.some.injEq, and_comm]

theorem class_iff (i : Nat) (cls : List Nat) (h : sel i = sortNat (expected i cls)) (o : Nat) :
    (∃ r ∈ reflectTable, r.1 = o ∧ r.2.testBit i = true) ↔ o ∈ expected i cls := by
  rw [← mem_sel, h]; exact (sortNat_perm _).mem_iff

/-- **C16 (base predicates).** For every core opcode `o`, each base predicate answers true on `o` exactly when
`o` is in its specification class (minus the recorded gaps — none when `c16KnownGaps = []`). -/
theorem C16_base (o : Nat) :
    ((∃ r ∈ reflectTable, r.1 = o ∧ r.2.testBit 0 = true) ↔ o ∈ expected 0 SpecClass.locationDebug) ∧
    ((∃ r ∈ reflectTable, r.1 = o ∧ r.2.testBit 1 = true) ↔ o ∈ expected 1 SpecClass.nonLocationDebug) ∧
    ((∃ r ∈ reflectTable, r.1 = o ∧ r.2.testBit 3 = true) ↔ o ∈ expected 3 SpecClass.annotation) ∧
    ((∃ r ∈ reflectTable, r.1 = o ∧ r.2.testBit 4 = true) ↔ o ∈ expected 4 SpecClass.typeDecl) ∧
    ((∃ r ∈ reflectTable, r.1 = o ∧ r.2.testBit 5 = true) ↔ o ∈ expected 5 SpecClass.constant) ∧
    ((∃ r ∈ reflectTable, r.1 = o ∧ r.2.testBit 6 = true) ↔ o ∈ expected 6 SpecClass.variableDef) ∧
    ((∃ r ∈ reflectTable, r.1 = o ∧ r.2.testBit 7 = true) ↔ o ∈ expected 7 SpecClass.ret) ∧
    ((∃ r ∈ reflectTable, r.1 = o ∧ r.2.testBit 8 = true) ↔ o ∈ expected 8 SpecClass.abort) ∧
    ((∃ r ∈ reflectTable, r.1 = o ∧ r.2.testBit 10 = true) ↔ o ∈ expected 10 SpecClass.branch) := by
  have h : baseBits.map sel = (baseBits.zip specClasses).map (fun p => sortNat (expected p.1 p.2)) :=
    (buckets_eq reflectTable).symm.trans (eq_of_beq classes_ok)
  simp only [baseBits, specClasses, List.zip_cons_cons, List.map_cons, List.cons.injEq] at h
  obtain ⟨h0, h1, h3, h4, h5, h6, h7, h8, h10, _⟩ := h
  exact ⟨class_iff _ _ h0 o, class_iff _ _ h1 o, class_iff _ _ h3 o, class_iff _ _ h4 o, class_iff _ _ h5 o,
    class_iff _ _ h6 o, class_iff _ _ h7 o, class_iff _ _ h8 o, class_iff _ _ h10 o⟩

/-- **C16 (derived predicates, disjointness).** On every core opcode: debug = location ∨ non-location,
return-or-abort = return ∨ abort, terminator = branch ∨ return-or-abort, and at most one base class holds. -/
theorem C16_derived (r : Nat × Nat) (hr : r ∈ reflectTable) :
    (r.2.testBit 2 = (r.2.testBit 0 || r.2.testBit 1)) ∧
    (r.2.testBit 9 = (r.2.testBit 7 || r.2.testBit 8)) ∧
    (r.2.testBit 11 = (r.2.testBit 10 || r.2.testBit 9)) ∧
    ((r.2.testBit 0).toNat + (r.2.testBit 1).toNat + (r.2.testBit 3).toNat + (r.2.testBit 4).toNat +
     (r.2.testBit 5).toNat + (r.2.testBit 6).toNat + (r.2.testBit 7).toNat + (r.2.testBit 8).toNat +
     (r.2.testBit 10).toNat ≤ 1) := by
  have h := List.all_eq_true.1 rows_ok r hr
  simp only [rowOk, Bool.or_eq_true, Bool.and_eq_true, beq_iff_eq, decide_eq_true_eq] at h
  rcases h with h0 | h
  · simp [h0]
  · exact ⟨h.1.1.1, h.1.1.2, h.1.2, h.2⟩

/-- the extraction covers every opcode of the grammar table -/
theorem C16_covers : reflectTable.map (·.1) = coreTable.map (·.opcode) := eq_of_beq covers_ok

example : reflectTable.length = 787 ∧ 19 ∈ sel 4 ∧ 253 ∈ sel 11 := by decide +kernel

end Rspirv.Props.C16
