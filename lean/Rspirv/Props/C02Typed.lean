import Rspirv.Props.C02Base
/-!
# C02 — every instruction that conforms to the grammar (typing judgement) is read back from its encoding

`Model/Typed.lean` states the grammar as a typing judgement `InstT G τ i` on data-representation instructions, with no
reference to words or to the recogniser. Here, routine by routine (`str_T` … `loop_T`, `lead_T`): the recogniser reads a
value of the judgement back from the words the assembler emits for it, whatever follows; up to `typed_spec` for
`Spec.inst`. Hence a conforming instruction is "an instruction of the grammar" in the sense used by `C02_spec`,
`GrammarStream`, `C06_roundtrip`, `assemble_load` (`typed_grammar`; for streams, `typedStream_grammar` of
`Props/C02TypedInst.lean`), and those theorems apply to instructions characterised by their fields alone.
-/
namespace Rspirv.Props.C02Typed
open Rspirv Rspirv.Model Rspirv.Model.DState Rspirv.Model.Typed Rspirv.Props.C02 Rspirv.Props.C04

theorem str_T {bs : List Nat} (h : StrOk bs) (r' : List Nat) : Spec.str (packStr bs ++ r') = some (bs, r') := by
  obtain ⟨hlt, hnz, hutf⟩ := h
  obtain ⟨hbytes, hlen⟩ := packStr_spec bs hlt
  have hb : (packStr bs ++ r').flatMap Spec.wordBytes =
      bs ++ 0 :: (List.replicate (3 - bs.length % 4) 0 ++ r'.flatMap Spec.wordBytes) := by
    rw [List.flatMap_append, hbytes, List.append_assoc, List.cons_append]
  refine Spec.str_some.2 ⟨bs.length, ?_, ?_, ?_, ?_⟩
  · rw [hb]; exact findIdx_zero bs _ hnz
  · rwa [hb, List.take_left' rfl]
  · rw [hb, List.take_left' rfl]
  · rw [← hlen, List.drop_left' rfl]

variable {G : Tables}

theorem elem_T {e : Elem} {o : Operand} (h : ElemT G e o) (r' : List Nat) :
    Spec.elem G e (encodeOperand o ++ r') = some (o, r') := by
  rw [Spec.elem_eq]
  cases o with
  | w v x =>
    obtain ⟨rfl, hc⟩ := h
    revert hc
    cases e.dec == 0
    case true => rintro ⟨E, hE, hf⟩; rw [hE]; exact Spec.map_some.2 ⟨x, Spec.req1_some.2 ⟨x, rfl, hf⟩, rfl⟩
    cases e.dec == 1
    case true => rintro ⟨M, hM, hf⟩; rw [hM]; exact Spec.map_some.2 ⟨x, Spec.req1_some.2 ⟨x, rfl, hf⟩, rfl⟩
    exact fun h2 => by rw [h2]; rfl
  | s bs =>
    obtain ⟨h0, h1, h2, hs⟩ := h
    rw [h0, h1, h2]
    exact Spec.map_some.2 ⟨bs, str_T hs r', rfl⟩
  | q v => exact h.elim

theorem elems_T {es : List Elem} {os : List Operand} (h : ElemsT G es os) (r' : List Nat) :
    Spec.elems G es (encOps os ++ r') = some (os, r') := by
  induction h with
  | nil => rfl
  | cons he _ ih =>
    rw [encOps_cons, List.append_assoc]
    exact Spec.elems_cons_some.2 ⟨_, _, _, elem_T he _, ih, rfl⟩

theorem operand_T {k : Nat} {os : List Operand} (h : OperandT G k os) (r' : List Nat) :
    Spec.operand G k (encOps os ++ r') = some (os, r') := by
  rw [Spec.operand_eq]
  unfold OperandT at h
  cases ha : G.kindActs[k]? with
  | none => rw [ha] at h; exact h.elim
  | some act =>
    rw [ha] at h
    cases act with
    | panics => exact h.elim
    | elems es => exact elems_T h r'
    | maskParams e rows | enumParams e rows =>
      obtain ⟨v, ps, rfl, hv, hps⟩ := h
      rw [encOps_cons, List.append_assoc]
      exact Spec.withParams_some.2 ⟨v, _, ps, elem_T hv _, elems_T hps r', rfl⟩

theorem literal_T {τ : Tracker} {ty : Nat} {o : Operand} (h : LiteralT G τ ty o) (r' : List Nat) :
    Spec.literal G τ ty (encodeOperand o ++ r') = some (o, r') := by
  obtain ⟨hs, ht⟩ | ⟨hs, ht⟩ | ⟨-, ht⟩ := literal_mode G τ ty
  · obtain ⟨x, rfl⟩ := (ht o).1 h
    rw [hs]; rfl
  · obtain ⟨v, rfl, hv⟩ := (ht o).1 h
    rw [hs]
    exact Spec.lit2_some.2 ⟨_, _, rfl, congrArg _ (q_words (B := 4294967296) hv)⟩
  · exact (ht o h).elim

theorem literal_T_ne (o : Operand) : encodeOperand o ≠ [] := encodeOperand_ne o

theorem many_T {k : Nat} (hk : kindOk G k = true) {os : List Operand} (h : ManyT G k os) (fuel : Nat)
    (hf : (encOps os).length < fuel) : Spec.many G k fuel (encOps os) = some os := by
  induction h generalizing fuel with
  | nil => cases fuel with | zero => cases hf | succ f => exact Spec.many_succ_some.2 (.inl ⟨rfl, rfl⟩)
  | @cons g os hg _ ih =>
    have hne := encOps_ne (operandT_ne hk hg)
    rw [encOps_append] at hf ⊢
    rw [List.length_append] at hf
    cases fuel with
    | zero => cases hf
    | succ f =>
      exact Spec.many_succ_some.2 (.inr ⟨by simp [hne], g, _, os, operand_T hg _,
        ih f (by have := List.length_pos_iff.2 hne; omega), rfl⟩)

theorem nested_T {ops : List (Nat × Nat)} {os : List Operand} (h : NestedT G ops os) (hok : nestedOk G ops = true) :
    Spec.nested G ops (encOps os) = some (os, []) := by
  induction h with
  | nil => rfl
  | res hres _ ih => rw [Spec.nested_res hres]; exact ih (nestedOk_cons hok).1
  | @one k q rest g os hres hq hg _ ih =>
    rw [encOps_append]
    exact (Spec.nested_cons_some hres).2 ⟨g, _, os, Spec.nestedHere_some.2 (.inl ⟨hq, operand_T hg _⟩),
      ih (nestedOk_cons hok).1, rfl⟩
  | optNone hres hq0 hq1 _ ih =>
    exact (Spec.nested_cons_some hres).2 ⟨[], [], [],
      Spec.nestedHere_some.2 (.inr (.inl ⟨hq0, hq1, rfl, rfl, rfl⟩)), ih (nestedOk_cons hok).1, rfl⟩
  | @optSome k q rest g os hres hq0 hq1 hg _ ih =>
    obtain ⟨hok', hk⟩ := nestedOk_cons hok
    rw [encOps_append]
    exact (Spec.nested_cons_some hres).2 ⟨g, _, os, Spec.nestedHere_some.2 (.inr (.inr (.inl ⟨hq0, hq1,
      by simp [encOps_ne (operandT_ne (hk hres) hg)], operand_T hg _⟩))), ih hok', rfl⟩
  | @many k q rest g hres hq0 hq1 hg _ ih =>
    obtain ⟨hok', hk⟩ := nestedOk_cons hok
    exact (Spec.nested_cons_some hres).2 ⟨g, [], [], Spec.nestedHere_some.2 (.inr (.inr (.inr ⟨hq0, hq1,
      many_T (hk hres) hg _ (Nat.lt_succ_self _), rfl⟩))), ih hok', (List.append_nil g).symm⟩

theorem specOp_T (hc : coreKindsOk G = true) {os : List Operand} (h : SpecOpT G os) :
    Spec.specOp G (encOps os) = some (os, []) := by
  obtain ⟨e, rest, rfl, h16, hlook, hctx, hn⟩ := h
  exact Spec.specOp_some.2 ⟨e, _, rest, rfl, h16, hlook, hctx, nested_T hn (nestedOk_of_core hc hlook hctx), rfl⟩

/-- one logical operand other than a result kind, branch by branch as `C02TypedConv.oneReads_inv`; what follows the embedded
operation of `OpSpecConstantOp` must be empty, since its last operand may be variadic -/
theorem one_T (hc : coreKindsOk G = true) {τ : Tracker} {opcode k : Nat} {a : Acc} {g : List Operand}
    (h : OneT G τ opcode a.rtype a.ops k g) (r' : List Nat) (hr' : (k == G.kSpecOp) = true → r' = []) :
    Spec.oneReads G τ opcode k a (encOps g ++ r') g r' :=
  ite_imp (fun _ ⟨hop, ty, o, hty, hg, hl⟩ => ⟨hop, ty, o, hty, hg, by rw [hg, encOps_one]; exact literal_T hl r'⟩)
    (fun _ => ite_imp (fun _ ⟨hop, sel, tl, lit, tgt, hpre, hg, hl⟩ => ⟨hop, sel, tl, lit, tgt, hpre, hg,
        by rw [hg, encOps_pair]; exact literal_T hl _⟩)
      fun _ => ite_imp (fun hk hs => by rw [hr' hk, List.append_nil]; exact specOp_T hc hs) fun _ ho => operand_T ho r') h

/-- where `OpSpecConstantOp`'s embedded operation may stand in an entry: last and not variadic -/
def specLast (G : Tables) : List (Nat × Nat) → Bool
  | [] => true
  | (k, q) :: rest => (!(k == G.kSpecOp) || (rest.isEmpty && !(q == 2))) && specLast G rest

theorem loopT_nil {τ : Tracker} {opcode : Nat} {rt : Option Nat} {pre os : List Operand}
    (h : LoopT G τ opcode rt [] pre os) : os = [] := by
  cases h; rfl

/-- one step of `loop_T`: the first logical operand reads its group `g`, then the loop goes on with the list `ops'` that
`Spec.loop` goes on with -/
theorem loop_T_step (hc : coreKindsOk G = true) {τ : Tracker} {opcode k q : Nat} {rest : List (Nat × Nat)} {a : Acc}
    {g os : List Operand} (hone : OneT G τ opcode a.rtype a.ops k g) (hnr : NoRes G ((k, q) :: rest))
    (hko : KindsOk G ((k, q) :: rest)) (hos : (k == G.kSpecOp) = true → encOps os = [])
    (hcont : ∀ fuel, (if q == 2 then (k, q) :: rest else rest).length + (encOps os).length < fuel →
      Spec.loop G τ opcode fuel (if q == 2 then (k, q) :: rest else rest) { a with ops := a.ops ++ g } (encOps os) =
        some ({ a with ops := a.ops ++ g ++ os }, [])) :
    ∀ fuel, ((k, q) :: rest).length + (encOps (g ++ os)).length < fuel →
      Spec.loop G τ opcode fuel ((k, q) :: rest) a (encOps (g ++ os)) = some ({ a with ops := a.ops ++ (g ++ os) }, []) := by
  obtain ⟨k1, k2⟩ := hnr (k, q) List.mem_cons_self
  have hne := encOps_ne (oneT_ne hone (by simpa [k1, k2] using hko (k, q) List.mem_cons_self))
  rw [encOps_append, ← List.append_assoc]
  exact Spec.loop_step hne ((Spec.one_some k1 k2).2 ⟨g, one_T hc hone _ hos, rfl⟩) hcont

theorem loop_T (G : Tables) (hc : coreKindsOk G = true) (τ : Tracker) (opcode : Nat) (rt : Option Nat)
    {ops : List (Nat × Nat)} {pre os : List Operand} (h : LoopT G τ opcode rt ops pre os) :
    NoRes G ops → KindsOk G ops → specLast G ops = true → ∀ (a : Acc), a.rtype = rt → a.ops = pre →
    ∀ fuel, ops.length + (encOps os).length < fuel →
      Spec.loop G τ opcode fuel ops a (encOps os) = some ({ a with ops := pre ++ os }, []) := by
  induction h with
  | nil =>
    rintro - - - a - rfl fuel hf
    rw [List.append_nil]; exact Spec.loop_nil_pos hf
  | stop hq =>
    rintro - - - a - rfl fuel hf
    rw [List.append_nil]; exact Spec.loop_stop hf hq
  | @step k q rest pre g os hq hone hl ih =>
    rintro hnr hko hsl a rfl rfl
    simp only [specLast, Bool.and_eq_true, Bool.or_eq_true, Bool.not_eq_true'] at hsl
    refine loop_T_step hc hone hnr hko (fun hs => ?_) ?_
    · obtain h' | h' := hsl.1
      · rw [hs] at h'; cases h'
      · obtain rfl : rest = [] := by simpa using h'.1
        rw [loopT_nil hl]; rfl
    · rw [if_neg (by simp [hq])]
      exact ih hnr.tail (fun o ho => hko o (List.mem_cons_of_mem _ ho)) hsl.2 _ rfl rfl
  | @rep k q rest pre g os hq hone _ ih =>
    rintro hnr hko hsl a rfl rfl
    refine loop_T_step hc hone hnr hko (fun hs => ?_) ?_
    · simp only [specLast, Bool.and_eq_true, Bool.or_eq_true, Bool.not_eq_true', hs, hq] at hsl
      simp at hsl
    · rw [if_pos hq]
      exact ih hnr hko hsl _ rfl rfl

/-! ### the instruction -/

theorem acc_eta (a : Acc) : ({ a with ops := a.ops } : Acc) = a := by cases a; rfl

/-- `loop_T` with the result kinds still ahead (`LeadOk`): the loop reads what the target accumulator `⟨rt, rid, _⟩` has
more than `a` -/
theorem loop_lead_T (hc : coreKindsOk G = true) (hne : (G.kIdResult == G.kIdResultType) = false) {τ : Tracker}
    {opcode : Nat} {rt rid : Option Nat} {os : List Operand} : ∀ (ops : List (Nat × Nat)) (a : Acc), LeadOk G ops a →
    KindsOk G ops → specLast G ops = true → LoopT G τ opcode rt (ops.filter fun o => !isRes G o.1) a.ops os →
    (ops.any (fun o => o.1 == G.kIdResultType) = true → rt.isSome = true) →
    (ops.any (fun o => o.1 == G.kIdResultType) = false → rt = a.rtype) →
    (ops.any (fun o => o.1 == G.kIdResult) = true → rid.isSome = true) →
    (ops.any (fun o => o.1 == G.kIdResult) = false → rid = a.rid) →
    ∃ E, accWords ⟨rt, rid, a.ops ++ os⟩ = accWords a ++ E ∧ ∀ fuel, ops.length + E.length < fuel →
      Spec.loop G τ opcode fuel ops a E = some (⟨rt, rid, a.ops ++ os⟩, []) := by
  intro ops
  induction ops with
  | nil =>
    intro a _ hko hsl hl _ h1 _ h2
    obtain rfl := h1 rfl
    obtain rfl := h2 rfl
    exact ⟨encOps os, accWords_ops a os, loop_T G hc τ opcode _ hl (fun _ h => nomatch h) hko hsl a rfl rfl⟩
  | cons o rest ih =>
    obtain ⟨k, q⟩ := o
    intro a hlead hko hsl hl h1 h1' h2 h2'
    have hko' : KindsOk G rest := fun o ho => hko o (List.mem_cons_of_mem _ ho)
    have hsl' : specLast G rest = true := by simp only [specLast, Bool.and_eq_true] at hsl; exact hsl.2
    obtain ⟨k1, k2, rfl, e1, e2, e3, hl'⟩ | ⟨k1, k2, rfl, e2, e3, hnr⟩ | hnr := leadOk_cons hne hlead
    · obtain ⟨w, rfl⟩ := Option.isSome_iff_exists.1 (h1 (by simp [k1]))
      obtain ⟨E, hacc, hre⟩ := ih { a with rtype := some w } (hl' w) hko' hsl'
        (by simpa [List.filter_cons, isRes, k1] using hl) (fun _ => rfl) (fun _ => rfl)
        (fun h => h2 (by simp [h])) (fun h => h2' (by simp [k2, h]))
      exact ⟨w :: E, by simpa [accWords, encOps, e1, e2, e3] using hacc,
        Spec.loop_step (enc := [w]) nofun ((Spec.one_rtype_some k1).2 ⟨w, rfl, rfl⟩) hre⟩
    · obtain ⟨w, rfl⟩ := Option.isSome_iff_exists.1 (h2 (by simp [k2]))
      obtain ⟨E, hacc, hre⟩ := ih { a with rid := some w } (leadOk_of_noRes hnr) hko' hsl'
        (by simpa [List.filter_cons, isRes, k2] using hl) (fun h => h1 (by simp [h]))
        (fun h => h1' (by simp [k1, h])) (fun _ => rfl) (fun _ => rfl)
      exact ⟨w :: E, by simpa [accWords, encOps, e2, e3] using hacc,
        Spec.loop_step (enc := [w]) nofun ((Spec.one_rid_some k1 k2).2 ⟨w, rfl, rfl⟩) hre⟩
    · obtain rfl := h1' (noRes_any hnr).1
      obtain rfl := h2' (noRes_any hnr).2
      rw [noRes_filter hnr] at hl
      exact ⟨encOps os, accWords_ops a os, loop_T G hc τ opcode _ hl hnr hko hsl a rfl rfl⟩

/-- the operand words of a conforming instruction are consumed by the logical operands of its entry -/
theorem lead_T (G : Tables) (hc : coreKindsOk G = true) (hne : (G.kIdResult == G.kIdResultType) = false) (τ : Tracker)
    (opcode : Nat) (ops : List (Nat × Nat)) (rt rid : Option Nat) (os : List Operand)
    (hlead : LeadOk G ops ⟨none, none, []⟩) (hko : KindsOk G ops) (hsl : specLast G ops = true)
    (hrt : rt.isSome = ops.any (fun o => o.1 == G.kIdResultType))
    (hrid : rid.isSome = ops.any (fun o => o.1 == G.kIdResult))
    (hloop : LoopT G τ opcode rt (ops.filter (fun o => !isRes G o.1)) [] os) :
    ∀ fuel, ops.length + (rt.toList ++ rid.toList ++ encOps os).length < fuel →
      Spec.loop G τ opcode fuel ops ⟨none, none, []⟩ (rt.toList ++ rid.toList ++ encOps os) = some (⟨rt, rid, os⟩, []) := by
  obtain ⟨E, hacc, hre⟩ := loop_lead_T hc hne ops ⟨none, none, []⟩ hlead hko hsl hloop (fun h => by rw [hrt, h])
    (fun h => by simpa [h] using hrt) (fun h => by rw [hrid, h]) (fun h => by simpa [h] using hrid)
  -- the empty accumulator has no words, so `hacc` says what `E` is
  obtain rfl : rt.toList ++ rid.toList ++ encOps os = E := hacc
  exact hre

/-- the table facts the typing theorems need, on top of `GoodTables` -/
structure TypedTables (G : Tables) : Prop where
  good : GoodTables G
  specLast : ∀ e ∈ G.core, specLast G e.ops = true
  op16 : ∀ e ∈ G.core, e.opcode < 65536

/-- **C02 (typing judgement).** An instruction that conforms to the grammar is read back by the recogniser from the words
the assembler emits for it, followed by any continuation. -/
theorem typed_spec (G : Tables) (tt : TypedTables G) (τ : Tracker) (i : Inst) (h : InstT G τ i) (r' : List Nat) :
    Spec.inst G τ (assembleInst i ++ r') = some (i, r') := by
  obtain ⟨e, hlook, hrt, hrid, hloop, hlen⟩ := h
  obtain ⟨hmem, hop⟩ := lookupOpcode_some _ _ _ hlook
  refine inst_assembled hlook (by rw [← hop]; exact tt.op16 e hmem) hlen ?_ r'
  rw [hop]
  exact lead_T G tt.good.kinds tt.good.distinct τ i.opcode e.ops i.rtype i.rid i.operands
    (leadOk_of_resultsLead (tt.good.lead e hmem)) (tt.good.kindsOk hmem) (tt.specLast e hmem) hrt hrid hloop

/-- a conforming instruction is an instruction of the grammar in the recogniser's sense -/
theorem typed_grammar (G : Tables) (tt : TypedTables G) (τ : Tracker) (i : Inst) (h : InstT G τ i) :
    (∃ ws rest, Spec.inst G τ ws = some (i, rest)) ∧ (assembleInst i).length < 65536 :=
  ⟨⟨assembleInst i ++ [], [], typed_spec G tt τ i h []⟩, let ⟨_, _, _, _, _, hlen⟩ := h; hlen⟩

/-- a sequence of conforming instructions, the type tracker following the sequence -/
def TypedStream (G : Tables) : Tracker → List Inst → Prop
  | _, [] => True
  | τ, i :: t => InstT G τ i ∧ ∃ τ1, τ.track G.tt i = some τ1 ∧ TypedStream G τ1 t

end Rspirv.Props.C02Typed
