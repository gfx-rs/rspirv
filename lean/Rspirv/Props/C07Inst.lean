import Rspirv.Props.C07
/-!
# C07 — an instruction line determines the instruction

The piecewise injectivity theorems of `Props/C07.lean` (operand tokens per variant, opcode names) put together: two
instructions of the grammar table whose operand lists have the same *shape* (the same operand variant position by
position — what a reader reconstructs from the opcode's grammar entry and the tokens' lexical classes) and whose payloads
are legal, and which `impl Disassemble for dr::Instruction` prints as the same line (before rendering to characters), are
the same instruction: same opcode, result id, result type and operands. Hence (`C07_insts_inj`) two instruction
sequences of the same shape printed as the same lines are equal.
-/
namespace Rspirv.Props.C07Inst
open Rspirv Rspirv.Model Rspirv.Props.C07

def SameShape : Operand → Operand → Prop
  | .w v _, .w v' _ => v = v'
  | .q _, .q _ => True
  | .s _, .s _ => True
  | _, _ => False

def ValidOperand (D : DisTables) : Operand → Prop
  | .w v x => ValidPayload D v x
  | _ => True

def SameShapes : List Operand → List Operand → Prop
  | [], [] => True
  | a :: as, b :: bs => SameShape a b ∧ SameShapes as bs
  | _, _ => False

theorem operand_inj (D : DisTables) (hv : vocabularyOk D = true) (o o' : Operand) (hs : SameShape o o')
    (h1 : ValidOperand D o) (h2 : ValidOperand D o') (h : operandTok D o = operandTok D o') : o = o' := by
  -- operands of different kinds do not have the same shape
  cases o <;> cases o' <;> cases hs
  · rw [C07_operand_inj D hv _ _ _ h1 h2 h]
  · rw [Tok.num.inj h]
  · rw [Tok.str.inj h]

theorem operands_inj (D : DisTables) (hv : vocabularyOk D = true) : ∀ (os os' : List Operand), SameShapes os os' →
    (∀ o ∈ os, ValidOperand D o) → (∀ o ∈ os', ValidOperand D o) → os.map (operandTok D) = os'.map (operandTok D) →
    os = os' := by
  intro os os' hs h1 h2 h
  fun_induction SameShapes os os' with
  | case1 => rfl
  | case2 a as b bs ih =>
    rw [List.forall_mem_cons] at h1 h2
    rw [List.map_cons, List.map_cons, List.cons.injEq] at h
    rw [operand_inj D hv a b hs.1 h1.1 h2.1 h.1, ih hs.2 h1.2 h2.2 h.2]
  | case3 => exact hs.elim

theorem C07_inst_inj (D : DisTables) (hv : vocabularyOk D = true) (i j : Inst)
    (hi : (lookupOpcode D.core i.opcode).isSome) (hj : (lookupOpcode D.core j.opcode).isSome)
    (hs : SameShapes i.operands j.operands) (h1 : ∀ o ∈ i.operands, ValidOperand D o)
    (h2 : ∀ o ∈ j.operands, ValidOperand D o) (h : instLine D i = instLine D j) : i = j := by
  obtain ⟨io, it, ir, ios⟩ := i
  obtain ⟨jo, jt, jr, jos⟩ := j
  injection h with e1 e2 e3 e4
  have := C07_opcode_inj D hv io jo hi hj e2
  have := operands_inj D hv ios jos hs h1 h2 e4
  subst_vars
  rfl

def SameShapeInsts : List Inst → List Inst → Prop
  | [], [] => True
  | a :: as, b :: bs => SameShapes a.operands b.operands ∧ SameShapeInsts as bs
  | _, _ => False

/-- two instruction sequences of the same shape with the same lines are the same sequence -/
theorem C07_insts_inj (D : DisTables) (hv : vocabularyOk D = true) : ∀ (is js : List Inst), SameShapeInsts is js →
    (∀ i ∈ is, (lookupOpcode D.core i.opcode).isSome ∧ ∀ o ∈ i.operands, ValidOperand D o) →
    (∀ j ∈ js, (lookupOpcode D.core j.opcode).isSome ∧ ∀ o ∈ j.operands, ValidOperand D o) →
    is.map (instLine D) = js.map (instLine D) → is = js := by
  intro is js hs h1 h2 h
  fun_induction SameShapeInsts is js with
  | case1 => rfl
  | case2 a as b bs ih =>
    rw [List.forall_mem_cons] at h1 h2
    rw [List.map_cons, List.map_cons, List.cons.injEq] at h
    rw [C07_inst_inj D hv a b h1.1.1 h2.1.1 hs.1 h1.1.2 h2.1.2 h.1, ih hs.2 h1.2 h2.2 h.2]
  | case3 => exact hs.elim

/-- the same at the tables of this tree -/
theorem C07_lines_inj (is js : List Inst) (hs : SameShapeInsts is js)
    (h1 : ∀ i ∈ is, (lookupOpcode theD.core i.opcode).isSome ∧ ∀ o ∈ i.operands, ValidOperand theD o)
    (h2 : ∀ j ∈ js, (lookupOpcode theD.core j.opcode).isSome ∧ ∀ o ∈ j.operands, ValidOperand theD o)
    (h : is.map (instLine theD) = js.map (instLine theD)) : is = js :=
  C07_insts_inj theD vocabulary_ok is js hs h1 h2 h

end Rspirv.Props.C07Inst
