import Rspirv.Props.Seq
/-!
# When the recogniser succeeds

`Props/Seq.lean` writes each routine of the recogniser `Spec` as a sequence of `Option.bind`s. Read as "the routine
returns `some _` iff each step does", that equation is an equivalence; the ones below are those a proof about successful
runs takes a run apart with (`.1`) or puts one together with (`.2`).
-/
namespace Rspirv.Model.Spec
open Rspirv Rspirv.Model Rspirv.Model.DState

variable {G : Tables} {τ : Tracker}

theorem seq_some {α β γ : Type} {p : Option (α × List Nat)} {q : α × List Nat → Option (β × List Nat)}
    {f : α × List Nat → β × List Nat → γ} {z : γ} {rest : List Nat} :
    (p.bind fun x => (q x).bind fun y => some (f x y, y.2)) = some (z, rest) ↔
      ∃ a t b, p = some (a, t) ∧ q (a, t) = some (b, rest) ∧ z = f (a, t) (b, rest) := by
  simp only [Option.bind_eq_some_iff, Prod.exists, Option.some.injEq, Prod.mk.injEq]
  constructor
  · rintro ⟨a, t, hp, b, r, hq, rfl, rfl⟩; exact ⟨a, t, b, hp, hq, rfl⟩
  · rintro ⟨a, t, b, hp, hq, rfl⟩; exact ⟨a, t, hp, b, rest, hq, rfl, rfl⟩

theorem map_some {α γ : Type} {p : Option (α × List Nat)} {f : α × List Nat → γ} {z : γ} {rest : List Nat} :
    (p.bind fun x => some (f x, x.2)) = some (z, rest) ↔ ∃ a, p = some (a, rest) ∧ z = f (a, rest) := by
  simp only [Option.bind_eq_some_iff, Prod.exists, Option.some.injEq, Prod.mk.injEq]
  exact ⟨fun ⟨a, _, hp, e, rfl⟩ => ⟨a, hp, e.symm⟩, fun ⟨a, hp, e⟩ => ⟨a, rest, hp, e.symm, rfl⟩⟩

theorem word1_some {ws t : List Nat} {w : Nat} : word1 ws = some (w, t) ↔ ws = w :: t := by
  rcases ws with _ | ⟨w', t'⟩ <;> simp [word1]

theorem word1_map_some {γ : Type} {f : Nat × List Nat → γ} {ws t : List Nat} {z : γ} :
    ((word1 ws).bind fun p => some (f p, p.2)) = some (z, t) ↔ ∃ w, ws = w :: t ∧ z = f (w, t) := by
  simp only [map_some, word1_some]

theorem req1_some {f : Nat → Option Nat} {ws t : List Nat} {v : Nat} :
    req1 f ws = some (v, t) ↔ ∃ w, ws = w :: t ∧ f w = some v := by
  simp only [req1, Option.bind_eq_some_iff, Prod.exists, word1_some, Option.some.injEq, Prod.mk.injEq]
  constructor
  · rintro ⟨w, t, rfl, _, hf, rfl, rfl⟩; exact ⟨w, rfl, hf⟩
  · rintro ⟨w, rfl, hf⟩; exact ⟨w, t, rfl, v, hf, rfl, rfl⟩

theorem elems_cons_some {e : Elem} {es : List Elem} {ws rest : List Nat} {os : List Operand} :
    elems G (e :: es) ws = some (os, rest) ↔
      ∃ o t os', elem G e ws = some (o, t) ∧ elems G es t = some (os', rest) ∧ os = o :: os' := by
  rw [elems_cons]; exact seq_some

theorem withParams_some {e : Elem} {sel : Nat → List Elem} {ws rest : List Nat} {os : List Operand} :
    withParams G e sel ws = some (os, rest) ↔
      ∃ v t ps, elem G e ws = some (v, t) ∧ elems G (sel v.num) t = some (ps, rest) ∧ os = v :: ps := seq_some

theorem str_some {ws bs rest : List Nat} :
    str ws = some (bs, rest) ↔ ∃ nul, (ws.flatMap wordBytes).findIdx? (· == 0) = some nul ∧
      validUtf8 ((ws.flatMap wordBytes).take nul) = true ∧
      bs = (ws.flatMap wordBytes).take nul ∧ rest = ws.drop (nul / 4 + 1) := by
  constructor
  · fun_cases str ws <;> intro h <;> cases h
    exact ⟨_, ‹_›, ‹_›, rfl, rfl⟩
  · rintro ⟨nul, hf, hu, rfl, rfl⟩
    simp only [str, hf, hu, if_true]

theorem many_succ_some {k fuel : Nat} {ws : List Nat} {os : List Operand} :
    many G k (fuel + 1) ws = some os ↔ (ws = [] ∧ os = []) ∨
      (ws ≠ [] ∧ ∃ g t more, operand G k ws = some (g, t) ∧ many G k fuel t = some more ∧ os = g ++ more) := by
  rw [many_succ]
  rcases ws with _ | ⟨w, t⟩
  · exact ⟨fun h => .inl ⟨rfl, (Option.some.inj h).symm⟩, fun h => by obtain ⟨-, rfl⟩ | ⟨h, -⟩ := h; rfl; exact (h rfl).elim⟩
  · simp only [List.isEmpty_cons, Bool.false_eq_true, if_false, Option.bind_eq_some_iff, Prod.exists]
    constructor
    · rintro ⟨g, t, h1, m, h2, h3⟩; exact .inr ⟨List.cons_ne_nil _ _, g, t, m, h1, h2, (Option.some.inj h3).symm⟩
    · rintro (⟨h, -⟩ | ⟨-, g, t, m, h1, h2, rfl⟩)
      · cases h
      · exact ⟨g, t, h1, m, h2, rfl⟩

theorem lit1_some {ws rest : List Nat} {o : Operand} :
    lit1 G ws = some (o, rest) ↔ ∃ w, ws = w :: rest ∧ o = .w G.vLit32 w := by
  rw [lit1_eq]; exact word1_map_some

theorem lit2_some {ws rest : List Nat} {o : Operand} :
    lit2 ws = some (o, rest) ↔
      ∃ lo hi, ws = lo :: hi :: rest ∧ o = .q ((hi % 4294967296) * 4294967296 + lo % 4294967296) := by
  simp only [lit2_eq, Option.bind_eq_some_iff, Prod.exists, word1_some, Option.some.injEq, Prod.mk.injEq]
  constructor
  · rintro ⟨lo, t, rfl, hi, t', rfl, rfl, rfl⟩; exact ⟨lo, hi, rfl, rfl⟩
  · rintro ⟨lo, hi, rfl, rfl⟩; exact ⟨lo, _, rfl, hi, rest, rfl, rfl, rfl⟩

/-- the four ways one logical operand of the embedded operation is read — required, optional and absent, optional and
present, variadic — as in the constructors `one`, `optNone`, `optSome`, `many` of `Typed.NestedT` -/
theorem nestedHere_some {k q : Nat} {ws t : List Nat} {g : List Operand} :
    nestedHere G k q ws = some (g, t) ↔
      ((q == 0) = true ∧ operand G k ws = some (g, t)) ∨
      ((q == 0) = false ∧ (q == 1) = true ∧ ws = [] ∧ g = [] ∧ t = []) ∨
      ((q == 0) = false ∧ (q == 1) = true ∧ ws ≠ [] ∧ operand G k ws = some (g, t)) ∨
      ((q == 0) = false ∧ (q == 1) = false ∧ many G k (ws.length + 1) ws = some g ∧ t = []) := by
  unfold nestedHere
  cases q == 0 <;> cases q == 1 <;> simp [Option.map_eq_some_iff, List.isEmpty_iff]
  · exact ⟨fun ⟨_, h, rfl, ht⟩ => ⟨h, ht⟩, fun ⟨h, ht⟩ => ⟨g, h, rfl, ht⟩⟩
  · split
    · rename_i h; subst h; simp [eq_comm]
    · simp [*]

theorem nested_nil_some {ws rest : List Nat} {os : List Operand} :
    nested G [] ws = some (os, rest) ↔ os = [] ∧ rest = ws := by
  rw [nested, Option.some.injEq, Prod.mk.injEq, eq_comm, @eq_comm _ ws]

theorem nested_res {k q : Nat} {ops : List (Nat × Nat)} {ws : List Nat}
    (h : (k == G.kIdResultType || k == G.kIdResult) = true) : nested G ((k, q) :: ops) ws = nested G ops ws := by
  rw [nested_cons, if_pos h]

theorem nested_cons_some {k q : Nat} {ops : List (Nat × Nat)} {ws rest : List Nat} {os : List Operand}
    (h : (k == G.kIdResultType || k == G.kIdResult) = false) :
    nested G ((k, q) :: ops) ws = some (os, rest) ↔
      ∃ g t more, nestedHere G k q ws = some (g, t) ∧ nested G ops t = some (more, rest) ∧ os = g ++ more := by
  rw [nested_cons, h]; exact seq_some

theorem specOpEntry_some {n : Nat} {e : Entry} :
    specOpEntry G n = some e ↔
      n = e.opcode ∧ n ≤ 65535 ∧ lookupOpcode G.core n = some e ∧ (e.ops.any fun o => isCtxKind G o.1) = false := by
  rw [specOpEntry, Option.filter_eq_some_iff, Option.ite_none_right_eq_some, Bool.not_eq_true']
  exact ⟨fun ⟨⟨h1, hl⟩, hp⟩ => ⟨(lookupOpcode_some _ _ _ hl).2.symm, h1, hl, hp⟩, fun ⟨_, h1, h2, h3⟩ => ⟨⟨h1, h2⟩, h3⟩⟩

/-- clause by clause the shape of `Typed.SpecOpT` -/
theorem specOp_some {ws rest : List Nat} {os : List Operand} :
    specOp G ws = some (os, rest) ↔ ∃ e t os', ws = e.opcode :: t ∧ e.opcode ≤ 65535 ∧
      lookupOpcode G.core e.opcode = some e ∧ (e.ops.any fun o => isCtxKind G o.1) = false ∧
      nested G e.ops t = some (os', rest) ∧ os = .w G.vSpecOp e.opcode :: os' := by
  simp only [specOp_eq, Option.bind_eq_some_iff, Prod.exists, word1_some, specOpEntry_some, Option.some.injEq, Prod.mk.injEq]
  constructor
  · rintro ⟨n, t, rfl, e, ⟨rfl, h16, hl, hc⟩, os', _, hn, rfl, rfl⟩; exact ⟨e, t, os', rfl, h16, hl, hc, hn, rfl⟩
  · rintro ⟨e, t, os', rfl, h16, hl, hc, hn, rfl⟩; exact ⟨_, t, rfl, e, ⟨rfl, h16, hl, hc⟩, os', rest, hn, rfl, rfl⟩

theorem one_rtype_some {opcode k : Nat} {a a1 : Acc} {ws t : List Nat} (hk : (k == G.kIdResultType) = true) :
    one G τ opcode k a ws = some (a1, t) ↔ ∃ w, ws = w :: t ∧ a1 = { a with rtype := some w } := by
  rw [one_eq, oneKind, if_pos hk]; exact word1_map_some

theorem one_rid_some {opcode k : Nat} {a a1 : Acc} {ws t : List Nat} (hk1 : (k == G.kIdResultType) = false)
    (hk : (k == G.kIdResult) = true) :
    one G τ opcode k a ws = some (a1, t) ↔ ∃ w, ws = w :: t ∧ a1 = { a with rid := some w } := by
  rw [one_eq, oneKind, hk1, if_neg Bool.false_ne_true, if_pos hk]; exact word1_map_some

/-- `Spec.one` on a kind other than the result kinds reads the operands `g` and leaves the words `t`. Written as the same
chain of `if`s as `Typed.OneT`, with a successful run where `OneT` has the typing of its result: a proof that takes one to
the other (`C02.ite_imp`) goes branch by branch, and type-checks because both unfold to that chain. -/
def oneReads (G : Tables) (τ : Tracker) (opcode k : Nat) (a : Acc) (ws : List Nat) (g : List Operand) (t : List Nat) : Prop :=
  if k == G.kCtxNumber then
    (opcode == G.opConstant || opcode == G.opSpecConstant) = true ∧
      ∃ ty o, a.rtype = some ty ∧ g = [o] ∧ literal G τ ty ws = some (o, t)
  else if k == G.kPairLitId then
    (opcode == G.opSwitch) = true ∧
      ∃ sel tl lit tgt, a.ops = .w G.vIdRef sel :: tl ∧ g = [lit, .w G.vIdRef tgt] ∧ literal G τ sel ws = some (lit, tgt :: t)
  else if k == G.kSpecOp then specOp G ws = some (g, t)
  else operand G k ws = some (g, t)

theorem one_some {opcode k : Nat} {a a1 : Acc} {ws t : List Nat} (hk1 : (k == G.kIdResultType) = false)
    (hk2 : (k == G.kIdResult) = false) :
    one G τ opcode k a ws = some (a1, t) ↔ ∃ g, oneReads G τ opcode k a ws g t ∧ a1 = { a with ops := a.ops ++ g } := by
  -- from `one_eq` the four arms with their tests on `opcode`, `a.rtype`, `a.ops` take some thirty lines
  rw [one.eq_def]; unfold oneReads; grind

theorem loop_zero {opcode : Nat} {ops : List (Nat × Nat)} {a : Acc} {ws : List Nat} :
    loop G τ opcode 0 ops a ws = none := by
  rw [loop]

theorem loop_nil {opcode fuel : Nat} {a : Acc} {ws : List Nat} :
    loop G τ opcode (fuel + 1) [] a ws = some (a, ws) := by
  rw [loop]

theorem loop_cons_some {opcode fuel k q : Nat} {ops : List (Nat × Nat)} {a : Acc} {ws : List Nat} {r : Acc × List Nat} :
    loop G τ opcode (fuel + 1) ((k, q) :: ops) a ws = some r ↔
      (ws = [] ∧ (q == 0) = false ∧ r = (a, [])) ∨
      (ws ≠ [] ∧ ∃ a1 t, one G τ opcode k a ws = some (a1, t) ∧
        loop G τ opcode fuel (if q == 2 then (k, q) :: ops else ops) a1 t = some r) := by
  rw [loop_cons]
  rcases ws with _ | ⟨w, t⟩
  · simp only [List.isEmpty_nil, Bool.not_true, Bool.false_eq_true, if_false, ne_eq, not_true, false_and, or_false, true_and]
    cases q == 0
    · simp only [Bool.false_eq_true, if_false, Option.some.injEq, true_and]; exact eq_comm
    · simp
  · simp [Option.bind_eq_some_iff]

/-! Putting a run of the loop together, with whatever fuel is left: -/

theorem loop_nil_pos {opcode fuel n : Nat} {a : Acc} {ws : List Nat} (hf : n < fuel) :
    loop G τ opcode fuel [] a ws = some (a, ws) := by
  cases fuel with | zero => cases hf | succ f => exact loop_nil

theorem loop_stop {opcode fuel n k q : Nat} {ops : List (Nat × Nat)} {a : Acc} (hf : n < fuel) (hq : (q == 0) = false) :
    loop G τ opcode fuel ((k, q) :: ops) a [] = some (a, []) := by
  cases fuel with | zero => cases hf | succ f => exact loop_cons_some.2 (.inl ⟨rfl, hq, rfl⟩)

/-- the first logical operand reads the words `enc`, then the loop goes on; the fuel bound of the whole is that of the
remainder and one more per word read -/
theorem loop_step {opcode k q : Nat} {ops : List (Nat × Nat)} {a a1 : Acc} {enc E : List Nat} {r : Acc × List Nat}
    (hne : enc ≠ []) (h1 : one G τ opcode k a (enc ++ E) = some (a1, E))
    (h2 : ∀ fuel, (if q == 2 then (k, q) :: ops else ops).length + E.length < fuel →
      loop G τ opcode fuel (if q == 2 then (k, q) :: ops else ops) a1 E = some r)
    (fuel : Nat) (hf : ((k, q) :: ops).length + (enc ++ E).length < fuel) :
    loop G τ opcode fuel ((k, q) :: ops) a (enc ++ E) = some r := by
  cases fuel with
  | zero => cases hf
  | succ f =>
    refine loop_cons_some.2 (.inr ⟨by simp [hne], a1, E, h1, h2 f ?_⟩)
    have := List.length_pos_iff.2 hne
    split <;> simp only [List.length_cons, List.length_append] at hf ⊢ <;> omega

theorem loop_noWords {opcode : Nat} {a a' : Acc} {r : List Nat} : ∀ {fuel : Nat} {ops : List (Nat × Nat)},
    loop G τ opcode fuel ops a [] = some (a', r) → a' = a ∧ r = []
  | 0, _, h => by rw [loop_zero] at h; cases h
  | _ + 1, [], h => by rw [loop_nil] at h; cases h; exact ⟨rfl, rfl⟩
  | _ + 1, (_, _) :: _, h => by
    obtain ⟨-, -, h⟩ | ⟨h, -⟩ := loop_cons_some.1 h
    · cases h; exact ⟨rfl, rfl⟩
    · exact (h rfl).elim

theorem inst_some {ws rest : List Nat} {i : Inst} :
    inst G τ ws = some (i, rest) ↔ ∃ w0 t e a, ws = w0 :: t ∧ w0 / 65536 ≠ 0 ∧
      lookupOpcode G.core (w0 % 65536) = some e ∧ w0 / 65536 - 1 ≤ t.length ∧
      loop G τ e.opcode (w0 / 65536 + e.ops.length + 1) e.ops ⟨none, none, []⟩ (t.take (w0 / 65536 - 1)) = some (a, []) ∧
      i = ⟨e.opcode, a.rtype, a.rid, a.ops⟩ ∧ rest = t.drop (w0 / 65536 - 1) := by
  constructor
  · -- every branch of `inst` but one returns `none`
    fun_cases inst G τ ws <;> intro h <;> cases h
    exact ⟨_, _, _, _, rfl, ne_of_beq_false (Bool.eq_false_iff.2 ‹_›), ‹_›, Nat.not_lt.1 ‹_›, ‹_›, rfl, rfl⟩
  · rintro ⟨w0, t, e, a, rfl, hwc, he, hfit, hl, rfl, rfl⟩
    simp only [inst, beq_false_of_ne hwc, Bool.false_eq_true, if_false, he, Nat.not_lt.2 hfit, hl]

theorem inst_shrinks (G : Tables) (τ : Tracker) (ws : List Nat) (i : Inst) (rest : List Nat)
    (h : inst G τ ws = some (i, rest)) : rest.length < ws.length := by
  obtain ⟨w0, t, e, a, rfl, _, _, _, _, _, rfl⟩ := inst_some.1 h
  simp only [List.length_drop, List.length_cons]; omega

theorem inst_overrun (G : Tables) (τ : Tracker) (w0 : Nat) (t : List Nat) (hover : t.length < w0 / 65536 - 1) :
    inst G τ (w0 :: t) = none := by
  rcases h : inst G τ (w0 :: t) with _ | ⟨i, rest⟩
  · rfl
  · obtain ⟨_, _, _, _, hws, _, _, hfit, _⟩ := inst_some.1 h
    cases hws
    omega

theorem insts_step {G : Tables} {τ τ1 : Tracker} {ws rest : List Nat} {i : Inst} (fuel : Nat)
    (hs : inst G τ ws = some (i, rest)) (ht : τ.track G.tt i = some τ1) :
    insts G (fuel + 1) τ ws = (i :: (insts G fuel τ1 rest).1, (insts G fuel τ1 rest).2) := by
  simp only [insts, hs, ht]

theorem insts_stop {G : Tables} {τ : Tracker} {ws : List Nat} (fuel : Nat) (hs : inst G τ ws = none) :
    insts G (fuel + 1) τ ws = ([], ws) := by
  simp only [insts, hs]

end Rspirv.Model.Spec
