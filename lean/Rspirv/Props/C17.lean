import Rspirv.Model.Reflect
import Rspirv.Generated.Reflect
import Rspirv.Generated.Operands
import Rspirv.Generated.Spirv
import Rspirv.Reference.PinnedReflect
import Rspirv.Generated.Findings
/-!
# C17 — operand reflection agrees with the parser and the grammar

Two generated copies of the per-value parameter lists exist in the tree: the parser's (`autogen_parse_operand.rs`,
per enumerant / per bit, in source order) and the reflection's (`autogen_operand.rs::additional_operands`, grouped).
Both are translated on every run; the theorems compare them with each other, for every enumerant and for EVERY bit
pattern, and with the pinned snapshot.
-/
namespace Rspirv.Props.C17
open Rspirv Rspirv.Model Rspirv.Generated.Operands
open Rspirv.Generated.Reflect (additionalOperands requiredCapabilities requiredExtensions idRefAny idRefAnyMut fromImpls unwraps variantPayloadType)

/-- kind index of the parameterised kind represented by Operand variant `v` (the kind whose `parse_operand` arm decodes
variant `v` with parameters) -/
def actOf (v : Nat) : Option KindAct :=
  kindActs.find? (fun a => match a with
    | .maskParams e _ => e.variant == v
    | .enumParams e _ => e.variant == v
    | _ => false)

/-- reflection's answer, expanded to decode elements through the kind table -/
def reflectElems (isMask : Bool) (rows : List (List Nat × List (Nat × Nat))) (v : Nat) : List Elem :=
  (addOperandsOf isMask rows v).flatMap (fun lo => kindElems kindActs lo.1)

/-! ### enumerant kinds: the same sequence, for every declared enumerant -/

def enumValues (v : Nat) : List Nat :=
  match operandVariants[v]? with
  | some (_, 0, ix) => match Rspirv.Generated.Spirv.enums[ix]? with
    | some E => E.declVals
    | none => []
  | _ => []

/-- reflection groups flattened to one `(value, elements)` pair per listed value (per flag, for a mask) -/
def expand (rows : List (List Nat × List (Nat × Nat))) : List (Nat × List Elem) :=
  rows.flatMap (fun r => r.1.map (fun f => (f, r.2.flatMap (fun lo => kindElems kindActs lo.1))))

theorem find?_map_const {β : Type} (E : β) (x : Nat) (vals : List Nat) :
    (vals.map (fun v => (v, E))).find? (·.1 == x) = if vals.contains x then some (x, E) else none := by
  induction vals with
  | nil => rfl
  | cons v vs ih =>
    rw [List.map_cons, List.find?_cons, List.contains_cons, ih, Bool.beq_comm (a := x)]
    cases h : v == x
    · rfl
    · simp [eq_of_beq h]

/-- reflection's `match` on the value is a first-match lookup in the flattened rows -/
theorem reflectElems_enum (rows : List (List Nat × List (Nat × Nat))) (x : Nat) :
    reflectElems false rows x = (((expand rows).find? (·.1 == x)).map (·.2)).getD [] := by
  unfold reflectElems addOperandsOf expand
  simp only [Bool.false_eq_true, if_false]
  induction rows with
  | nil => rfl
  | cons r t ih =>
    simp only [List.find?_cons, List.flatMap_cons, List.find?_append, find?_map_const]
    cases r.1.contains x
    · exact ih
    · rfl

def keyLe (a b : Nat × List Elem) : Bool := Nat.ble a.1 b.1

/-- the parser's rows have pairwise different values and are, up to order, reflection's rows flattened -/
def rowsAgree (rows : List (List Nat × List (Nat × Nat))) (P : List (Nat × List Elem)) : Bool :=
  strictInc (P.map (·.1)) && msort keyLe (expand rows).length (expand rows) == P

theorem rowsAgree_sound {rows : List (List Nat × List (Nat × Nat))} {e : Elem} {P : List (Nat × List Elem)}
    (h : rowsAgree rows P = true) (x : Nat) : reflectElems false rows x = parserParams (.enumParams e P) x := by
  simp only [rowsAgree, Bool.and_eq_true, beq_iff_eq] at h
  have hp : (expand rows).Perm P := h.2 ▸ (msort_perm keyLe _ _).symm
  rw [reflectElems_enum, find?_key_perm Prod.fst hp (strictInc_nodup _ h.1)]
  simp only [parserParams]
  cases P.find? (·.1 == x) <;> rfl

/-- the table check. Comparing the two lookups value by value rescans both tables for every enumerant; the parser's rows
carry each value once, so it is enough that they are reflection's flattened rows up to order (`rowsAgree_sound`). -/
def enumAgree : Bool :=
  additionalOperands.all (fun r =>
    r.2.1 || (match actOf r.1 with
      | some (.enumParams _ P) => rowsAgree r.2.2 P &&
                    -- every reflected operand is required exactly once (the parser reads one element per listed kind),
                    -- except for recorded findings (value, kind) whose quantifier the parser ignores
                    r.2.2.all (fun row => row.2.all (fun lo => lo.2 == 0 ||
                      row.1.all (fun x => Rspirv.Generated.Findings.c17KnownQuant.contains (r.1, x))))
      | _ => false))

theorem enum_agree : enumAgree = true := by decide +kernel

/-- **C17 (enumerants).** For every enumerant of `ExecutionMode` and `Decoration`, the extra operands reflection
reports are exactly the kinds the parser consumes after that value, as a sequence. -/
theorem C17_enum (r : Nat × Bool × List (List Nat × List (Nat × Nat))) (hr : r ∈ additionalOperands) (hm : r.2.1 = false) :
    ∃ act, actOf r.1 = some act ∧ ∀ x ∈ enumValues r.1, reflectElems false r.2.2 x = parserParams act x := by
  have h := List.all_eq_true.1 enum_agree r hr
  simp only [hm, Bool.false_or] at h
  split at h
  · rename_i e P ha
    simp only [Bool.and_eq_true] at h
    exact ⟨_, ha, fun x _ => rowsAgree_sound h.1 x⟩
  · cases h

/-! ### bit-mask kinds: the same multiset, for every bit pattern -/

def maskRows : KindAct → List (Nat × List Elem)
  | .maskParams _ rows => rows
  | _ => []

def maskAgree : Bool :=
  additionalOperands.all (fun r =>
    !r.2.1 || (match actOf r.1 with
      | some act => (expand r.2.2).isPerm (maskRows act) && (match act with | .maskParams _ _ => true | _ => false)
      | none => false))

theorem mask_agree : maskAgree = true := by decide +kernel

theorem reflectElems_mask (rows : List (List Nat × List (Nat × Nat))) (v : Nat) :
    reflectElems true rows v = ((expand rows).filter (fun p => maskContains v p.1)).flatMap (·.2) := by
  simp only [reflectElems, addOperandsOf, expand, if_true, List.flatMap_assoc, List.filter_flatMap, List.filter_map,
    List.flatMap_map, Function.comp_def]

/-- **C17 (bit-masks).** For EVERY bit pattern `x` of the four parameterised masks (image operands, loop control,
memory access, tensor addressing) the extra operands reflection reports are a permutation of what the parser consumes
after that value. -/
theorem C17_mask (r : Nat × Bool × List (List Nat × List (Nat × Nat))) (hr : r ∈ additionalOperands) (hm : r.2.1 = true)
    (x : Nat) :
    ∃ act, actOf r.1 = some act ∧ List.Perm (reflectElems true r.2.2 x) (parserParams act x) := by
  have h := List.all_eq_true.1 mask_agree r hr
  simp only [hm, Bool.not_true, Bool.false_or] at h
  rcases ha : actOf r.1 with _ | act <;> simp only [ha, Bool.and_eq_true] at h
  · cases h
  refine ⟨act, rfl, ?_⟩
  cases act with
  | maskParams e rows => exact reflectElems_mask _ _ ▸ ((List.isPerm_iff.1 h.1).filter _).flatMap_right _
  | _ => cases h.2

/-! ### pinned reference, ids, rewriting an id, conversions -/

/-- **C17 (grammar).** Parameters, required capabilities and required extensions equal the snapshot of the pinned SDK
release. -/
theorem C17_pinned :
    additionalOperands = Rspirv.Reference.PinnedReflect.additionalOperands ∧
    requiredCapabilities = Rspirv.Reference.PinnedReflect.requiredCapabilities ∧
    requiredExtensions = Rspirv.Reference.PinnedReflect.requiredExtensions := ⟨rfl, rfl, rfl⟩

/-- variants whose payload is a `spirv::Word` id, by the enum declaration -/
def idVariants : List Nat :=
  (operandVariants.zipIdx.filter (fun p => p.1.2.1 == 2)).map (·.2)

/-- **C17 (ids).** `id_ref_any` / `id_ref_any_mut` report an id exactly for the three id kinds (the variants declared
with a `spirv::Word` payload). -/
theorem C17_ids : sameSet idRefAny idVariants = true ∧ idRefAny = idRefAnyMut ∧ idRefAny.length = 3 := by decide +kernel

theorem encode_set (ops : List Operand) (k variant y : Nat) (hlt : k < ops.length) :
    (ops.set k (.w variant y)).flatMap encodeOperand =
      (ops.take k).flatMap encodeOperand ++ [y] ++ (ops.drop (k + 1)).flatMap encodeOperand := by
  rw [List.set_eq_take_append_cons_drop, if_pos hlt]
  simp only [List.flatMap_append, List.flatMap_cons, encodeOperand, List.append_assoc]

/-- **C17 (rewriting an id).** Replacing a one-word operand by another value of the same variant changes exactly the
corresponding word of the assembled instruction: the words before and after are untouched and the length is the same.
(Position = 1 + result type + result id + words of the preceding operands.) -/
theorem C17_rewrite (i : Inst) (k variant old new : Nat) (hk : i.operands[k]? = some (.w variant old)) :
    let pre := (i.operands.take k).flatMap encodeOperand
    let post := (i.operands.drop (k + 1)).flatMap encodeOperand
    assembleInst i = (i.opcode ||| ((i.rtype.toList ++ i.rid.toList ++ pre ++ [old] ++ post).length + 1) * 65536 % 4294967296) ::
        (i.rtype.toList ++ i.rid.toList ++ pre ++ [old] ++ post) ∧
    assembleInst (i.setOperand k (.w variant new)) =
      (i.opcode ||| ((i.rtype.toList ++ i.rid.toList ++ pre ++ [new] ++ post).length + 1) * 65536 % 4294967296) ::
        (i.rtype.toList ++ i.rid.toList ++ pre ++ [new] ++ post) := by
  intro pre post
  obtain ⟨hlt, hget⟩ := List.getElem?_eq_some_iff.1 hk
  -- the instruction itself is the case `new = old`
  have key (y : Nat) : assembleInst (i.setOperand k (.w variant y)) =
      (i.opcode ||| ((i.rtype.toList ++ i.rid.toList ++ pre ++ [y] ++ post).length + 1) * 65536 % 4294967296) ::
        (i.rtype.toList ++ i.rid.toList ++ pre ++ [y] ++ post) := by
    simp only [assembleInst, Inst.setOperand, encode_set _ _ _ _ hlt, List.append_assoc, pre, post]
  have hself : i.setOperand k (.w variant old) = i := by
    simp only [Inst.setOperand, ← hget, List.set_getElem_self]
  exact ⟨hself ▸ key old, key new⟩

/-- **C17 (conversions).** Every `From<T> for Operand` builds the variant whose declared payload type is `T`, and the
`unwrap_*` accessor of that variant returns a `T` (`&str` for `String`): converting a payload into an operand and
extracting it again returns the payload. -/
def conversionsOk : Bool :=
  fromImpls.all (fun f => variantPayloadType[f.2]? == some f.1 && unwraps.contains (f.1, f.2)) &&
  -- each accessor is declared for the variant's own payload type
  unwraps.all (fun u => variantPayloadType[u.2]? == some u.1) &&
  nodupCheck (unwraps.map (·.2)) && decide (unwraps.length = operandVariants.length)

theorem C17_conversions : conversionsOk = true := by decide +kernel

example : additionalOperands.length = 6 ∧ (additionalOperands.filter (·.2.1)).length = 4 := by decide +kernel

end Rspirv.Props.C17
