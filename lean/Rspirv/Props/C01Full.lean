import Rspirv.Props.RoundTrip
import Rspirv.Props.C02TypedConv
/-!
# C01 — end to end, at module level

For every binary `load_bytes` accepts, with no hypothesis on its contents beyond the property's own exclusions
(`C01_full`): the words after the header are the concatenation of one chunk per delivered instruction, each chunk an
encoding (`InstWords`) of its instruction (`Chunks`); re-assembling such an instruction gives an encoding of it again
(`reencode`: with the same number of words, the same first word, result type and result id; two encodings of one operand
are compared by `C01Words.opWords_agree`: the same words except for the bytes behind a string's NUL); the assembled output
is the header
`[magic, 0x00MMmm00, rspirv's generator, bound, 0]` followed by the encodings of a permutation of the delivered
instructions that keeps the relative order inside every section and inside the function part. Hence the output has
exactly as many words as the input.

Loading the output again (`C01_reload_bytes`) needs the traversal of the loaded module to be a stream of instructions of
the grammar. The instructions the parser delivered are such a stream in the order they were delivered: each was
recognised under the types tracked so far, and its re-encoding has the word count it was read with. So when the
traversal is the delivered sequence — which `C01_identity` shows for inputs already in layout order — the hypothesis is
discharged (`C01_reload_layout`).
-/
namespace Rspirv.Props.C01Layout
open Rspirv Rspirv.Model Rspirv.Props.C02 Rspirv.Props.C01Words Rspirv.Props.RoundTrip

/-- the re-encoding of a recognised instruction has the word count it was read with (below 2^16) -/
theorem asm_len (G : Tables) (good : GoodTables G) (τ : Tracker) (ws : List Nat) (i : Inst) (rest : List Nat)
    (h : Spec.inst G τ ws = some (i, rest)) (hw : WordsOk ws) : (assembleInst i).length < 65536 := by
  obtain ⟨used, e, hu⟩ := inst_words G good τ ws i rest h
  exact (hu.asm_lt fun x hx => hw x (by rw [e]; exact List.mem_append_left _ hx)).1

/-- what the recogniser delivers is a stream of instructions of the grammar -/
theorem insts_stream (G : Tables) (good : GoodTables G) : ∀ (fuel : Nat) (τ : Tracker) (ws : List Nat), WordsOk ws →
    GrammarStream G τ (Spec.insts G fuel τ ws).1
  | fuel, τ, ws, hw => by
    fun_induction Spec.insts G fuel τ ws with
    | case1 | case2 | case3 => trivial
    | case4 fuel τ ws i rest hs τ1 ht ih =>
      obtain ⟨used, e, _⟩ := inst_words G good τ ws i rest hs
      exact ⟨⟨ws, rest, hs⟩, asm_len G good τ ws i rest hs hw, τ1, ht,
        ih fun x hx => hw x (e ▸ List.mem_append_right _ hx)⟩

theorem streamWords_ok (bytes : List Nat) (hb : ∀ b ∈ bytes, b < 256) : WordsOk (Spec.streamWords bytes) := by
  intro w hw
  simp only [Spec.streamWords, List.mem_map] at hw
  obtain ⟨k, _, rfl⟩ := hw
  exact Rspirv.Props.ParserSpec.le32_lt bytes hb _

/-- **C01 (reload of a layout-ordered input).** A binary (bytes below 256, shorter than 2^63 bytes, five header words with the
magic number) that `load_bytes` accepts as `m` and whose instruction sequence is the traversal of `m` — the input was in
layout order (`C01_identity`) — : `load_bytes` of the bytes of `m.assemble()` returns `Ok(m)` again. No hypothesis about the
grammar: the delivered instructions are a grammar stream by construction. -/
theorem C01_reload_layout (G : Tables) (L : LTables) (hT : Rspirv.Props.C04.tablesSafe G = true) (good : GoodTables G)
    (bytes : List Nat) (hb : ∀ b ∈ bytes, b < 256) (m : Module Inst) (h : loadBytes G L bytes = .ok m)
    (hlay : Rspirv.Props.C15.allInstIter m = (Spec.insts G (bytes.length + 1) [] (Spec.streamWords bytes)).1)
    (hw : WordsOk (Rspirv.Props.C15.assemble assembleInst m))
    (hsmall : 4 * (Rspirv.Props.C15.assemble assembleInst m).length < 2 ^ 63) :
    loadBytes G L ((Rspirv.Props.C15.assemble assembleInst m).flatMap Spec.wordBytes) = .ok m := by
  have hg : GrammarStream G [] (Rspirv.Props.C15.allInstIter m) := by
    rw [hlay]; exact insts_stream G good _ [] _ (streamWords_ok bytes hb)
  exact C01_reload_bytes G L hT good bytes m h hg hw hsmall

end Rspirv.Props.C01Layout

namespace Rspirv.Props.C01Full
open Rspirv Rspirv.Model Rspirv.Model.DState Rspirv.Props.C02 Rspirv.Props.C01Words Rspirv.Props.C01Layout
  Rspirv.Props.RoundTrip Rspirv.Props.C01

/-- the stream is the concatenation of one encoding per instruction -/
inductive Chunks : List Inst → List Nat → Prop
  | nil : Chunks [] []
  | cons {i : Inst} {u : List Nat} {is : List Inst} {ws : List Nat} :
      InstWords i u → Chunks is ws → Chunks (i :: is) (u ++ ws)

/-- a fully recognised stream splits into chunks -/
theorem insts_chunks (G : Tables) (good : GoodTables G) : ∀ (fuel : Nat) (τ : Tracker) (ws : List Nat),
    (Spec.insts G fuel τ ws).2 = [] → Chunks (Spec.insts G fuel τ ws).1 ws
  | fuel, τ, ws, h => by
    fun_induction Spec.insts G fuel τ ws with
    | case1 | case2 | case3 => subst h; exact Chunks.nil
    | case4 fuel τ ws i rest hs τ1 ht ih =>
      obtain ⟨used, e, hw⟩ := inst_words G good τ ws i rest hs
      exact e ▸ Chunks.cons hw (ih h)

/-! ### the assembler's words are 32-bit words -/

/-- the encoding of an operand that was read from 32-bit words consists of 32-bit words -/
theorem encodeOperand_ok (o : Operand) (w : List Nat) (h : OpWords o w) (hw : WordsOk w) : WordsOk (encodeOperand o) := by
  cases o with
  | w v x =>
    simp only [OpWords] at h
    subst h
    exact hw
  | q v =>
    have := opWords_ok _ _ h
    simp only [OperandOk] at this
    intro x hx
    simp only [encodeOperand, List.mem_cons, List.not_mem_nil, or_false] at hx
    rcases hx with rfl | rfl <;> omega
  | s bs => exact packStr_ok bs (opWords_ok _ _ h)

theorem encOps_ok : ∀ (os : List Operand) (ws : List Nat), OpsWords os ws → WordsOk ws → WordsOk (encOps os) := by
  intro os ws h
  induction h with
  | nil => intro _ x hx; cases hx
  | @cons o os w ws' ho _ ih =>
    intro hw x hx
    rw [encOps_cons] at hx
    rcases List.mem_append.1 hx with hx | hx
    · exact encodeOperand_ok o w ho (fun y hy => hw y (List.mem_append_left _ hy)) x hx
    · exact ih (fun y hy => hw y (List.mem_append_right _ hy)) x hx

/-- **C01 (one instruction, both directions).** If `u` (32-bit words) encodes instruction `i`, then so does
`assembleInst i`; it consists of 32-bit words, has the same length, the same first word, the same result type and result id
words; and its operand words encode the same operand list (`opWords_agree` then gives word-for-word equality except behind
a string's NUL). -/
theorem reencode (i : Inst) (u : List Nat) (hu : InstWords i u) (hw : WordsOk u) :
    InstWords i (assembleInst i) ∧ WordsOk (assembleInst i) ∧ (assembleInst i).length = u.length ∧
    (assembleInst i).head? = u.head? ∧
    (assembleInst i).take (1 + i.rtype.toList.length + i.rid.toList.length) =
      u.take (1 + i.rtype.toList.length + i.rid.toList.length) := by
  obtain ⟨hlt, hopc⟩ := hu.asm_lt hw
  have ⟨w0, ops, e, _, _, hops⟩ := hu
  have hasm := assemble_words i hopc hlt (opsWords_ok _ _ hops)
  have hok : WordsOk (assembleInst i) := by
    -- a first word with a 16-bit count, the result words of `u`, and the operands' encodings
    obtain ⟨w0', body, ha, hc, -, rfl⟩ := C02_first_word i hopc hlt
    obtain ⟨hw1, hw2⟩ := List.forall_mem_append.1 (List.forall_mem_cons.1 (e ▸ hw)).2
    rw [ha]
    exact List.forall_mem_cons.2 ⟨by omega, List.forall_mem_append.2 ⟨hw1, encOps_ok _ ops hops hw2⟩⟩
  exact ⟨hasm, hok, hu.asm_length, (instWords_agree i _ u hasm hu hok hw).2⟩

/-- per chunk: the re-encoding has the chunk's length; hence the total length is preserved -/
theorem Chunks.length {is : List Inst} {ws : List Nat} (h : Chunks is ws) (hw : WordsOk ws) :
    (is.flatMap assembleInst).length = ws.length := by
  induction h with
  | nil => rfl
  | @cons i u is' ws' hi _ ih =>
    have h1 := (reencode i u hi (fun x hx => hw x (List.mem_append_left _ hx))).2.2.1
    have h2 := ih (fun x hx => hw x (List.mem_append_right _ hx))
    simp only [List.flatMap_cons, List.length_append, h1, h2]

/-- per chunk: every instruction re-encodes as in `reencode` -/
theorem Chunks.reencode {is : List Inst} {ws : List Nat} (h : Chunks is ws) (hw : WordsOk ws) :
    ∀ i ∈ is, ∃ u, u.Sublist ws ∧ InstWords i u ∧ InstWords i (assembleInst i) ∧ WordsOk (assembleInst i) ∧
      (assembleInst i).length = u.length ∧ (assembleInst i).head? = u.head? := by
  induction h with
  | nil => intro i hi; cases hi
  | @cons i0 u is' ws' hi _ ih =>
    intro i hmem
    rcases List.mem_cons.1 hmem with rfl | hmem
    · have r := Rspirv.Props.C01Full.reencode i u hi (fun x hx => hw x (List.mem_append_left _ hx))
      exact ⟨u, List.sublist_append_left _ _, hi, r.1, r.2.1, r.2.2.1, r.2.2.2.1⟩
    · obtain ⟨v, hs, r⟩ := ih (fun x hx => hw x (List.mem_append_right _ hx)) i hmem
      exact ⟨v, hs.trans (List.sublist_append_right _ _), r⟩

/-- an accepted binary has its five header words with the magic number, every word behind them is recognised, and the
module is the loader's of the recognised instructions under the header the parser rebuilds -/
theorem loadBytes_insts (G : Tables) (L : LTables) (hT : Rspirv.Props.C04.tablesSafe G = true) (bytes : List Nat)
    (hb : ∀ b ∈ bytes, b < 256) (hs : bytes.length < 2 ^ 63) (m : Module Inst) (h : loadBytes G L bytes = .ok m) :
    20 ≤ bytes.length ∧ le32 bytes 0 = G.magic ∧
    (Spec.insts G (bytes.length + 1) [] (Spec.streamWords bytes)).2 = [] ∧
    load L ⟨G.magic, (le32 bytes 4 / 65536 % 256) * 65536 + (le32 bytes 4 / 256 % 256) * 256, 0x000f0000, le32 bytes 12, 0⟩
      (Spec.insts G (bytes.length + 1) [] (Spec.streamWords bytes)).1 = .ok m := by
  obtain ⟨hres, hd, is, htr, hl⟩ := loadBytes_ok.1 h
  have h20 : 20 ≤ bytes.length := Nat.le_of_not_lt fun hlt => by
    obtain ⟨_, _, ht⟩ := Rspirv.Props.C03.C03_header_short G bytes hlt
    rw [ht] at htr; cases htr
  have hmagic : le32 bytes 0 = G.magic := Decidable.byContradiction fun hm => by
    obtain ⟨_, ht⟩ := Rspirv.Props.C03.C03_header_magic G bytes hb hs h20 hm
    rw [ht] at htr; cases htr
  obtain ⟨a1, a2⟩ := C03_accept_header G hT bytes hb hs h20 hmagic
  have hall := a1.1 hres
  rw [htr, hall, if_pos rfl] at a2
  obtain ⟨-, a2⟩ := List.cons.inj a2
  obtain ⟨hhd, a2⟩ := List.cons.inj a2
  cases (List.map_inj_right fun _ _ => Ev.inst.inj).1 (List.append_cancel_right a2)
  exact ⟨h20, hmagic, hall, Ev.header.inj hhd ▸ hl⟩

/-- **C01 (end to end).** Every binary `load_bytes` accepts as `m` (bytes below 256, shorter than 2^63 bytes): it has five
header words with the magic number; the words behind them are the concatenation of one encoding per delivered instruction
`is`; `m` is what the loader makes of `is` under the header `[magic, 0x00MMmm00, rspirv, bound, 0]`; every instruction
re-encodes to an encoding of the same length, first word, result words (`Chunks.reencode`); and unless the input contains
two `OpMemoryModel` or a parameter behind a label (`TidyRun`), the assembled output is that header followed by the
encodings of a permutation of `is` which keeps the order inside every section and inside the function part. -/
theorem C01_full (G : Tables) (L : LTables) (hT : Rspirv.Props.C04.tablesSafe G = true) (good : GoodTables G)
    (bytes : List Nat) (hb : ∀ b ∈ bytes, b < 256) (hs : bytes.length < 2 ^ 63) (m : Module Inst)
    (h : loadBytes G L bytes = .ok m) :
    20 ≤ bytes.length ∧ le32 bytes 0 = G.magic ∧
    ∃ hd is, hd = ⟨G.magic, (le32 bytes 4 / 65536 % 256) * 65536 + (le32 bytes 4 / 256 % 256) * 256, 0x000f0000,
        le32 bytes 12, 0⟩ ∧
      Chunks is (Spec.streamWords bytes) ∧ load L hd is = .ok m ∧
      (∀ i ∈ is, InstWords i (assembleInst i) ∧ WordsOk (assembleInst i)) ∧
      (TidyRun L (LState.start hd) is →
        (Rspirv.Props.C15.allInstIter m).Perm is ∧
        (∀ k, k ≤ 10 → (m.sect k).Sublist is) ∧ (m.functions.flatMap fnChain).Sublist is ∧
        Rspirv.Props.C15.assemble assembleInst m =
          [hd.magic, hd.version, hd.generator, hd.bound, hd.reserved] ++
            (Rspirv.Props.C15.allInstIter m).flatMap assembleInst ∧
        (Rspirv.Props.C15.assemble assembleInst m).length = 5 + (Spec.streamWords bytes).length) := by
  obtain ⟨h20, hmagic, hall, hl⟩ := loadBytes_insts G L hT bytes hb hs m h
  have hch := insts_chunks G good _ [] _ hall
  have hwok := streamWords_ok bytes hb
  refine ⟨h20, hmagic, _, _, rfl, hch, hl, ?_, ?_⟩
  · intro i hi
    obtain ⟨u, _, _, r1, r2, _⟩ := hch.reencode hwok i hi
    exact ⟨r1, r2⟩
  · intro ht
    have hperm := C01_perm L _ _ m hl ht
    obtain ⟨hsub1, hsub2⟩ := C01_sublist L _ _ m hl ht
    have hwords := Rspirv.Props.C15.C15_assemble_header assembleInst m (load_header hl)
    refine ⟨hperm, hsub1, hsub2, hwords, ?_⟩
    rw [hwords, List.length_append, (hperm.flatMap_right assembleInst).length_eq, hch.length hwok]
    rfl

/-- **C01 (reload, no side conditions on the output).** For an accepted binary inside the property's exclusions, the only
hypothesis left for "loading the assembled output again gives the same module" is that the regrouped instruction sequence
is still a stream of instructions of the grammar (necessary: recorded finding `C01:reload-literal-width-late-type`); that the
output consists of 32-bit words and is shorter than 2^63 bytes is derived. -/
theorem C01_reload_full (G : Tables) (L : LTables) (hT : Rspirv.Props.C04.tablesSafe G = true) (good : GoodTables G)
    (bytes : List Nat) (hb : ∀ b ∈ bytes, b < 256) (hs : bytes.length < 2 ^ 63) (m : Module Inst)
    (h : loadBytes G L bytes = .ok m)
    (ht : ∀ hd is, load L hd is = .ok m → Chunks is (Spec.streamWords bytes) → TidyRun L (LState.start hd) is)
    (hg : GrammarStream G [] (Rspirv.Props.C15.allInstIter m)) :
    loadBytes G L ((Rspirv.Props.C15.assemble assembleInst m).flatMap Spec.wordBytes) = .ok m := by
  obtain ⟨h20, hmagic, hd, is, rfl, hch, hl, hre, hrest⟩ := C01_full G L hT good bytes hb hs m h
  obtain ⟨hperm, _, _, hwords, hlen⟩ := hrest (ht _ is hl hch)
  have hle := Rspirv.Props.ParserSpec.le32_lt bytes hb
  refine C01_reload_bytes G L hT good bytes m h hg ?_ ?_
  · intro w hw
    rw [hwords] at hw
    rcases List.mem_append.1 hw with hw | hw
    · -- the header: two words of the input, two bytes of a third, two constants
      simp only [List.mem_cons, List.not_mem_nil, or_false] at hw
      rcases hw with rfl | rfl | rfl | rfl | rfl
      · exact hmagic ▸ hle 0
      · exact version_lt _ _
      · decide
      · exact hle 12
      · decide
    · obtain ⟨i, hi, hwi⟩ := List.mem_flatMap.1 hw
      exact (hre i (hperm.mem_iff.1 hi)).2 w hwi
  · rw [hlen]
    have : (Spec.streamWords bytes).length = (bytes.length - 20) / 4 := by
      simp [Spec.streamWords]
    omega

end Rspirv.Props.C01Full
