import Rspirv.Model.Spec
/-!
# The parser routines in sequenced form

Every routine of `Model/Parser.lean` spells its control flow out as nested `match … with | (.ok a, d1) => … | (.err x, d1) =>
(.err x, d1) | (.panic s, d1) => (.panic s, d1)`. `andThen` names that one shape; the equations below rewrite each
operand-level routine, `parse_inst` and the parse loop into it once (`parse_header`, which has no such shape, gets the case
lemma `parseHeader_cases`), and the matching equations rewrite the recogniser `Spec` into `Option.bind`. A property of the
routines is then proved from one rule for `andThen` (and `Option.bind`) instead of by walking the matches again.
-/
namespace Rspirv.Model
open DState

variable {ε α β : Type}

/-- continue with `k` on success; an error or panic is handed on with the state it was raised in -/
def andThen (r : PRes ε α × DState) (k : α → DState → PRes ε β × DState) : PRes ε β × DState :=
  match r with
  | (.ok a, d) => k a d
  | (.err e, d) => (.err e, d)
  | (.panic s, d) => (.panic s, d)

@[simp] theorem andThen_ok (a : α) (d : DState) (k : α → DState → PRes ε β × DState) : andThen (.ok a, d) k = k a d := rfl
@[simp] theorem andThen_err (e : ε) (d : DState) (k : α → DState → PRes ε β × DState) :
    andThen ((.err e, d) : PRes ε α × DState) k = (.err e, d) := rfl
@[simp] theorem andThen_panic (s : String) (d : DState) (k : α → DState → PRes ε β × DState) :
    andThen ((.panic s, d) : PRes ε α × DState) k = (.panic s, d) := rfl

theorem andThen_eq_ok {r : PRes ε α × DState} {k : α → DState → PRes ε β × DState} {b : β} {d2 : DState} :
    andThen r k = (.ok b, d2) ↔ ∃ a d1, r = (.ok a, d1) ∧ k a d1 = (.ok b, d2) := by
  rcases r with ⟨a | _ | _, d1⟩
  · exact ⟨fun h => ⟨a, d1, rfl, h⟩, fun ⟨_, _, h1, h2⟩ => by cases h1; exact h2⟩
  all_goals exact ⟨fun h => (nomatch h), fun ⟨_, _, h1, _⟩ => (nomatch h1)⟩

/-- a decoder request as an operand-level routine: `self.decoder.m()?` -/
def req (r : Res α × DState) : PRes IErr α × DState := (liftD r.1, r.2)

/-- a value followed by the parameters `sel` picks for it (the `maskParams` / `enumParams` arms of `parse_operand`) -/
def withParams (G : Tables) (e : Elem) (sel : Nat → List Elem) (d : DState) : PRes IErr (List Operand) × DState :=
  andThen (decodeElem G e d) fun v d1 => andThen (decodeElems G (sel v.num) d1) fun os d2 => (.ok (v :: os), d2)

/-- the occurrences one logical operand of a nested instruction stands for -/
def nestedHere (G : Tables) (k q : Nat) (d : DState) : PRes IErr (List Operand) × DState :=
  if q == 0 then parseOperand G k d
  else if q == 1 then (if d.limitReached then (.ok [], d) else parseOperand G k d)
  else parseMany G k ((d.limit.getD 0) + 1) d

theorem decodeElems_cons (G : Tables) (e : Elem) (es : List Elem) (d : DState) :
    decodeElems G (e :: es) d =
      andThen (decodeElem G e d) fun o d1 => andThen (decodeElems G es d1) fun os d2 => (.ok (o :: os), d2) := by
  rw [decodeElems]
  rcases decodeElem G e d with ⟨_ | _ | _, d1⟩ <;> try rfl
  simp only [andThen_ok]
  rcases decodeElems G es d1 with ⟨_ | _ | _, d2⟩ <;> rfl

theorem parseOperand_eq (G : Tables) (k : Nat) (d : DState) :
    parseOperand G k d =
      match G.kindActs[k]? with
      | none => (.panic "table: unknown kind", d)
      | some .panics => (.panic "parse_operand: panic!()", d)
      | some (.elems es) => decodeElems G es d
      | some (.maskParams e rows) => withParams G e (maskSel rows) d
      | some (.enumParams e rows) => withParams G e (enumSel rows) d := by
  unfold parseOperand withParams
  rcases G.kindActs[k]? with _ | _ | ⟨e, rows⟩ | ⟨e, rows⟩ | _ <;> try rfl
  all_goals
    dsimp only
    rcases decodeElem G e d with ⟨v | _ | _, d1⟩ <;> try rfl
    dsimp only [andThen_ok]
    rcases decodeElems G _ d1 with ⟨_ | _ | _, d2⟩ <;> rfl

theorem parseMany_succ (G : Tables) (kind fuel : Nat) (d : DState) :
    parseMany G kind (fuel + 1) d =
      if d.limitReached then (.ok [], d)
      else andThen (parseOperand G kind d) fun os d1 => andThen (parseMany G kind fuel d1) fun more d2 => (.ok (os ++ more), d2) := by
  rw [parseMany]
  congr 1
  rcases parseOperand G kind d with ⟨_ | _ | _, d1⟩ <;> try rfl
  dsimp only [andThen_ok]
  rcases parseMany G kind fuel d1 with ⟨_ | _ | _, d2⟩ <;> rfl

theorem parseNested_cons (G : Tables) (k q : Nat) (rest : List (Nat × Nat)) (d : DState) :
    parseNested G ((k, q) :: rest) d =
      if k == G.kIdResultType || k == G.kIdResult then parseNested G rest d
      else andThen (nestedHere G k q d) fun os d1 => andThen (parseNested G rest d1) fun more d2 => (.ok (os ++ more), d2) := by
  rw [parseNested]
  congr 1
  show (match nestedHere G k q d with | (.ok os, d1) => _ | r => r) = _
  rcases nestedHere G k q d with ⟨_ | _ | _, d1⟩ <;> try rfl
  dsimp only [andThen_ok]
  rcases parseNested G rest d1 with ⟨_ | _ | _, d2⟩ <;> rfl

/-- the opcode embedded in `OpSpecConstantOp`: a 16-bit number of the table whose entry has no context-dependent operand -/
def specOpEntry (G : Tables) (number : Nat) : Option Entry :=
  (if number ≤ 65535 then lookupOpcode G.core number else none).filter (fun e => !(e.ops.any (fun o => isCtxKind G o.1)))

theorem parseSpecConstantOp_eq (G : Tables) (idx : Nat) (d : DState) :
    parseSpecConstantOp G idx d =
      andThen (req (word d)) fun number d1 =>
        match specOpEntry G number with
        | some e => andThen (parseNested G e.ops d1) fun os d2 => (.ok (.w G.vSpecOp e.opcode :: os), d2)
        | none => (.err (.specConstantOpIntegerIncorrect d1.offset idx), d1) := by
  unfold parseSpecConstantOp req specOpEntry
  rcases word d with ⟨number | _ | _, d1⟩ <;> try rfl
  dsimp only [liftD, andThen_ok]
  generalize Option.filter _ _ = g
  rcases g with _ | e <;> try rfl
  dsimp only
  rcases parseNested G _ d1 with ⟨_ | _ | _, d2⟩ <;> rfl

theorem decodeElem_eq (G : Tables) (e : Elem) (d : DState) :
    decodeElem G e d =
      if e.dec == 0 then
        match G.enums[e.ix]? with
        | some E => andThen (req (DState.enum E e.ev d)) fun v d' => (.ok (.w e.variant v), d')
        | none => (.panic "table: unknown enum", d)
      else if e.dec == 1 then
        match G.masks[e.ix]? with
        | some M => andThen (req (DState.mask M e.ev d)) fun v d' => (.ok (.w e.variant v), d')
        | none => (.panic "table: unknown mask", d)
      else if e.dec == 2 then andThen (req (word d)) fun v d' => (.ok (.w e.variant v), d')
      else andThen (req (DState.string d)) fun bs d' => (.ok (.s bs), d') := by
  unfold decodeElem req
  refine ite_congr rfl (fun _ => ?_) fun _ => ite_congr rfl (fun _ => ?_) fun _ => ite_congr rfl (fun _ => ?_) fun _ => ?_
  · rcases G.enums[e.ix]? with _ | E <;> try rfl
    dsimp only
    rcases DState.enum E e.ev d with ⟨_ | _ | _, d'⟩ <;> rfl
  · rcases G.masks[e.ix]? with _ | M <;> try rfl
    dsimp only
    rcases DState.mask M e.ev d with ⟨_ | _ | _, d'⟩ <;> rfl
  · rcases word d with ⟨_ | _ | _, d'⟩ <;> rfl
  · rcases DState.string d with ⟨_ | _ | _, d'⟩ <;> rfl

theorem litOne_eq (G : Tables) (d : DState) : litOne G d = andThen (req (word d)) fun v d' => (.ok (.w G.vLit32 v), d') := by
  unfold litOne req
  rcases word d with ⟨_ | _ | _, d'⟩ <;> rfl

theorem litTwo_eq (d : DState) :
    litTwo d = andThen (req (word d)) fun lo d1 => andThen (req (word d1)) fun hi d2 => (.ok (.q (hi * 4294967296 + lo)), d2) := by
  unfold litTwo bit64 req
  rcases word d with ⟨lo | _ | _, d1⟩ <;> try rfl
  dsimp only [liftD, andThen_ok]
  rcases word d1 with ⟨hi | _ | _, d2⟩ <;> rfl

/-- which arm of the `match loperand.kind` of `parse_operands` a kind takes -/
inductive OneKind where
  | rtype | rid | ctxNumber | pairLitId | specOp | plain

def oneKind (G : Tables) (kind : Nat) : OneKind :=
  if kind == G.kIdResultType then .rtype
  else if kind == G.kIdResult then .rid
  else if kind == G.kCtxNumber then .ctxNumber
  else if kind == G.kPairLitId then .pairLitId
  else if kind == G.kSpecOp then .specOp
  else .plain

/-- the chain of comparisons `parseOne`, `Spec.one` and C04's `absStep` share, as a case distinction on `oneKind` -/
theorem ite_oneKind {α : Type} (G : Tables) (kind : Nat) (x1 x2 x3 x4 x5 x6 : α) :
    (if kind == G.kIdResultType then x1 else if kind == G.kIdResult then x2 else if kind == G.kCtxNumber then x3
      else if kind == G.kPairLitId then x4 else if kind == G.kSpecOp then x5 else x6) =
    match oneKind G kind with
    | .rtype => x1 | .rid => x2 | .ctxNumber => x3 | .pairLitId => x4 | .specOp => x5 | .plain => x6 := by
  unfold oneKind
  cases kind == G.kIdResultType
  case true => rfl
  cases kind == G.kIdResult
  case true => rfl
  cases kind == G.kCtxNumber
  case true => rfl
  cases kind == G.kPairLitId
  case true => rfl
  cases kind == G.kSpecOp <;> rfl

theorem parseOne_eq (G : Tables) (τ : Tracker) (idx opcode kind : Nat) (a : Acc) (d : DState) :
    parseOne G τ idx opcode kind a d =
      match oneKind G kind with
      | .rtype => andThen (req (word d)) fun v d1 => (.ok { a with rtype := some v }, d1)
      | .rid => andThen (req (word d)) fun v d1 => (.ok { a with rid := some v }, d1)
      | .ctxNumber =>
        if !(opcode == G.opConstant || opcode == G.opSpecConstant) then
          (.panic "assert: context dependent number outside OpConstant", d) else
        match a.rtype with
        | none => (.panic "expect: result type before context dependent number", d)
        | some t => andThen (parseLiteral G τ idx t d) fun o d1 => (.ok { a with ops := a.ops ++ [o] }, d1)
      | .pairLitId =>
        if opcode != G.opSwitch then (.panic "assert_eq: pair literal/id outside OpSwitch", d) else
        match a.ops with
        | [] => (.panic "index: coperands[0]", d)
        | .w v sel :: _ =>
          if v != G.vIdRef then (.panic "OpSwitch selector should be IdRef", d) else
          andThen (parseLiteral G τ idx sel d) fun lit d1 =>
            andThen (req (word d1)) fun tgt d2 => (.ok { a with ops := a.ops ++ [lit, .w G.vIdRef tgt] }, d2)
        | _ :: _ => (.panic "OpSwitch selector should be IdRef", d)
      | .specOp => andThen (parseSpecConstantOp G idx d) fun os d1 => (.ok { a with ops := a.ops ++ os }, d1)
      | .plain => andThen (parseOperand G kind d) fun os d1 => (.ok { a with ops := a.ops ++ os }, d1) := by
  unfold parseOne req
  rw [ite_oneKind]
  cases oneKind G kind
  · rcases word d with ⟨_ | _ | _, d1⟩ <;> rfl
  · rcases word d with ⟨_ | _ | _, d1⟩ <;> rfl
  · refine congrArg (ite _ _) ?_
    rcases a.rtype with _ | t <;> try rfl
    dsimp only
    rcases parseLiteral G τ idx t d with ⟨_ | _ | _, d1⟩ <;> rfl
  · refine congrArg (ite _ _) ?_
    rcases a.ops with _ | ⟨_ | _ | _, _⟩ <;> try rfl
    dsimp only
    congr 1
    rcases parseLiteral G τ idx _ d with ⟨_ | _ | _, d1⟩ <;> try rfl
    dsimp only [andThen_ok]
    rcases word d1 with ⟨_ | _ | _, d2⟩ <;> rfl
  · rcases parseSpecConstantOp G idx d with ⟨_ | _ | _, d1⟩ <;> rfl
  · rcases parseOperand G kind d with ⟨_ | _ | _, d1⟩ <;> rfl

theorem parseOperandsLoop_cons (G : Tables) (τ : Tracker) (idx opcode fuel k q : Nat) (rest : List (Nat × Nat)) (a : Acc)
    (d : DState) :
    parseOperandsLoop G τ idx opcode (fuel + 1) ((k, q) :: rest) a d =
      if !d.limitReached then
        andThen (parseOne G τ idx opcode k a d) fun a1 d1 =>
          parseOperandsLoop G τ idx opcode fuel (if q == 2 then (k, q) :: rest else rest) a1 d1
      else if q == 0 then (.err (.operandExpected d.offset idx), d)
      else (.ok a, d) := by
  rw [parseOperandsLoop]
  congr 1
  rcases parseOne G τ idx opcode k a d with ⟨_ | _ | _, d1⟩ <;> try rfl
  dsimp only [andThen_ok]
  split <;> rfl

theorem parseInst_eq (G : Tables) (τ : Tracker) (idx : Nat) (d : DState) :
    parseInst G τ idx d =
      match word d with
      | (.ok w0, d1) =>
        if w0 / 65536 == 0 then (.err (.wordCountZero (d1.offset - 4) idx), d1) else
        match lookupOpcode G.core (w0 % 65536) with
        | some e =>
          andThen (parseOperandsLoop G τ idx e.opcode (w0 / 65536 + e.ops.length + 1) e.ops ⟨none, none, []⟩
              (d1.setLimit (w0 / 65536 - 1))) fun a d3 =>
            if !d3.limitReached then (.err (.operandExceeded d3.offset idx), d3)
            else (.ok ⟨e.opcode, a.rtype, a.rid, a.ops⟩, d3.clearLimit)
        | none => (.err (.opcodeUnknown (d1.offset - 4) idx (w0 % 65536)), d1)
      | (_, d1) => (.err .complete, d1) := by
  unfold parseInst
  rcases word d with ⟨w0 | _ | _, d1⟩ <;> try rfl
  dsimp only
  congr 1
  rcases lookupOpcode G.core (w0 % 65536) with _ | e <;> try rfl
  dsimp only
  rcases parseOperandsLoop G τ idx e.opcode _ e.ops _ _ with ⟨_ | _ | _, d3⟩ <;> rfl

/-- The ways `parse_header` ends, each with the state `words 5` leaves: fewer than five words; five words, the first not the
magic number (the byte-swapped magic is told apart); or the header, rebuilt from the major and minor byte of the version
and from the bound. -/
theorem parseHeader_cases (G : Tables) (d : DState) :
    (∃ x d1, DState.words 5 d = (.err x, d1) ∧ parseHeader G d = (.err (.headerIncomplete x), d1)) ∨
    (∃ ws d1 e, DState.words 5 d = (.ok ws, d1) ∧ ws.getD 0 0 ≠ G.magic ∧
      (e = .endiannessUnsupported ∨ e = .headerIncorrect) ∧ parseHeader G d = (.err e, d1)) ∨
    (∃ ws d1, DState.words 5 d = (.ok ws, d1) ∧ ws.getD 0 0 = G.magic ∧ parseHeader G d =
      (.ok ⟨G.magic, (ws.getD 1 0 / 65536 % 256) * 65536 + (ws.getD 1 0 / 256 % 256) * 256, 0x000f0000, ws.getD 3 0, 0⟩, d1)) ∨
    (∃ s d1, DState.words 5 d = (.panic s, d1) ∧ parseHeader G d = (.panic s, d1)) := by
  unfold parseHeader
  rcases DState.words 5 d with ⟨ws | x | s, d1⟩ <;> dsimp only
  · by_cases hm : ws.getD 0 0 = G.magic
    · exact .inr (.inr (.inl ⟨ws, d1, rfl, hm, by rw [if_neg (by simpa using hm)]⟩))
    · rw [if_pos (by simpa using hm)]
      split
      · exact .inr (.inl ⟨ws, d1, _, rfl, hm, .inl rfl, rfl⟩)
      · exact .inr (.inl ⟨ws, d1, _, rfl, hm, .inr rfl, rfl⟩)
  · exact .inl ⟨x, d1, rfl, rfl⟩
  · exact .inr (.inr (.inr ⟨s, d1, rfl, rfl⟩))

/-- one round of the loop of `Parser::parse`, with the two error arms (`Complete` ends the parse well, any other kind
ends it with that error) told apart by a decidable test instead of by pattern order -/
theorem parseLoop_succ (G : Tables) (script : Nat → Action) (fuel : Nat) (τ : Tracker) (k idx : Nat) (d : DState)
    (tr : List Ev) :
    parseLoop G script (fuel + 1) τ k idx d tr =
      match parseInst G τ (idx + 1) d with
      | (.ok i, d1) =>
        match τ.track G.tt i with
        | none => ⟨.panic "tracker: operand index", tr.reverse⟩
        | some τ1 =>
          match consume (script k) k with
          | some e => ⟨.err e, (Ev.inst i :: tr).reverse⟩
          | none => parseLoop G script fuel τ1 (k + 1) (idx + 1) d1 (Ev.inst i :: tr)
      | (.err e, _) =>
        if e = .complete then
          match consume (script k) k with
          | some e => ⟨.err e, (Ev.fin :: tr).reverse⟩
          | none => ⟨.ok (), (Ev.fin :: tr).reverse⟩
        else ⟨.err (.inst e), tr.reverse⟩
      | (.panic s, _) => ⟨.panic s, tr.reverse⟩ := by
  rw [parseLoop]
  rcases parseInst G τ (idx + 1) d with ⟨_ | e | _, d1⟩ <;> try rfl
  cases e <;> rfl

/-! ### the recogniser, sequenced with `Option.bind` -/

namespace Spec

def word1 : List Nat → Option (Nat × List Nat)
  | w :: t => some (w, t)
  | [] => none

/-- one word that `f` accepts (a typed decoder request) -/
def req1 (f : Nat → Option Nat) (ws : List Nat) : Option (Nat × List Nat) :=
  (word1 ws).bind fun p => (f p.1).bind fun v => some (v, p.2)

def withParams (G : Tables) (e : Elem) (sel : Nat → List Elem) (ws : List Nat) : Option (List Operand × List Nat) :=
  (elem G e ws).bind fun p => (elems G (sel p.1.num) p.2).bind fun q => some (p.1 :: q.1, q.2)

def nestedHere (G : Tables) (k q : Nat) (ws : List Nat) : Option (List Operand × List Nat) :=
  if q == 0 then operand G k ws
  else if q == 1 then (if ws.isEmpty then some ([], ws) else operand G k ws)
  else (many G k (ws.length + 1) ws).map fun os => (os, [])

theorem elem_eq (G : Tables) (e : Elem) (ws : List Nat) :
    elem G e ws =
      if e.dec == 0 then
        match G.enums[e.ix]? with
        | some E => (req1 E.fromU32 ws).bind fun p => some (.w e.variant p.1, p.2)
        | none => none
      else if e.dec == 1 then
        match G.masks[e.ix]? with
        | some M => (req1 M.fromBits ws).bind fun p => some (.w e.variant p.1, p.2)
        | none => none
      else if e.dec == 2 then (word1 ws).bind fun p => some (.w e.variant p.1, p.2)
      else (str ws).bind fun p => some (.s p.1, p.2) := by
  unfold elem req1
  refine ite_congr rfl (fun _ => ?_) fun _ => ite_congr rfl (fun _ => ?_) fun _ => ite_congr rfl (fun _ => ?_) fun _ => ?_
  · rcases ws with _ | ⟨w, t⟩ <;> rcases G.enums[e.ix]? with _ | E <;> try rfl
    dsimp only [word1, Option.bind_some]
    rcases E.fromU32 w with _ | v <;> rfl
  · rcases ws with _ | ⟨w, t⟩ <;> rcases G.masks[e.ix]? with _ | M <;> try rfl
    dsimp only [word1, Option.bind_some]
    rcases M.fromBits w with _ | v <;> rfl
  · rcases ws with _ | ⟨w, t⟩ <;> rfl
  · rcases str ws with _ | ⟨bs, rest⟩ <;> rfl

theorem lit1_eq (G : Tables) (ws : List Nat) : lit1 G ws = (word1 ws).bind fun p => some (.w G.vLit32 p.1, p.2) := by
  rcases ws with _ | ⟨w, t⟩ <;> rfl

theorem lit2_eq (ws : List Nat) :
    lit2 ws = (word1 ws).bind fun lo => (word1 lo.2).bind fun hi =>
      some (.q ((hi.1 % 4294967296) * 4294967296 + lo.1 % 4294967296), hi.2) := by
  rcases ws with _ | ⟨lo, _ | ⟨hi, t⟩⟩ <;> rfl

theorem elems_cons (G : Tables) (e : Elem) (es : List Elem) (ws : List Nat) :
    elems G (e :: es) ws = (elem G e ws).bind fun p => (elems G es p.2).bind fun q => some (p.1 :: q.1, q.2) := by
  rw [elems]
  rcases elem G e ws with _ | ⟨o, t⟩ <;> try rfl
  dsimp only [Option.bind_some]
  rcases elems G es t with _ | ⟨os, t'⟩ <;> rfl

theorem operand_eq (G : Tables) (k : Nat) (ws : List Nat) :
    operand G k ws =
      match G.kindActs[k]? with
      | some (.elems es) => elems G es ws
      | some (.maskParams e rows) => withParams G e (maskSel rows) ws
      | some (.enumParams e rows) => withParams G e (enumSel rows) ws
      | _ => none := by
  unfold operand withParams
  rcases G.kindActs[k]? with _ | _ | ⟨e, rows⟩ | ⟨e, rows⟩ | _ <;> try rfl
  all_goals
    dsimp only
    rcases elem G e ws with _ | ⟨v, t⟩ <;> try rfl
    dsimp only [Option.bind_some]
    rcases elems G _ t with _ | ⟨os, t'⟩ <;> rfl

theorem many_succ (G : Tables) (k fuel : Nat) (ws : List Nat) :
    many G k (fuel + 1) ws =
      if ws.isEmpty then some []
      else (operand G k ws).bind fun p => (many G k fuel p.2).bind fun more => some (p.1 ++ more) := by
  rw [many]
  congr 1
  rcases operand G k ws with _ | ⟨os, t⟩ <;> try rfl
  dsimp only [Option.bind_some]
  rcases many G k fuel t with _ | more <;> rfl

theorem nested_cons (G : Tables) (k q : Nat) (rest : List (Nat × Nat)) (ws : List Nat) :
    nested G ((k, q) :: rest) ws =
      if k == G.kIdResultType || k == G.kIdResult then nested G rest ws
      else (nestedHere G k q ws).bind fun p => (nested G rest p.2).bind fun r => some (p.1 ++ r.1, r.2) := by
  rw [nested]
  congr 1
  generalize hg : ite (q == 0) _ _ = here
  have : here = nestedHere G k q ws := by
    rw [← hg, nestedHere]
    rcases many G k (ws.length + 1) ws with _ | os <;> rfl
  subst this
  rcases nestedHere G k q ws with _ | ⟨os, t⟩ <;> try rfl
  dsimp only [Option.bind_some]
  rcases nested G rest t with _ | ⟨more, t'⟩ <;> rfl

theorem specOp_eq (G : Tables) (ws : List Nat) :
    specOp G ws = (word1 ws).bind fun p => (specOpEntry G p.1).bind fun e =>
      (nested G e.ops p.2).bind fun q => some (.w G.vSpecOp e.opcode :: q.1, q.2) := by
  unfold specOp specOpEntry
  rcases ws with _ | ⟨number, t⟩ <;> try rfl
  dsimp only [word1, Option.bind_some]
  generalize Option.filter _ _ = g
  rcases g with _ | e <;> try rfl
  dsimp only [Option.bind_some]
  rcases nested G e.ops t with _ | ⟨os, t'⟩ <;> rfl

theorem one_eq (G : Tables) (τ : Tracker) (opcode kind : Nat) (a : Acc) (ws : List Nat) :
    one G τ opcode kind a ws =
      match oneKind G kind with
      | .rtype => (word1 ws).bind fun p => some ({ a with rtype := some p.1 }, p.2)
      | .rid => (word1 ws).bind fun p => some ({ a with rid := some p.1 }, p.2)
      | .ctxNumber =>
        if !(opcode == G.opConstant || opcode == G.opSpecConstant) then none else
        match a.rtype with
        | none => none
        | some ty => (literal G τ ty ws).bind fun p => some ({ a with ops := a.ops ++ [p.1] }, p.2)
      | .pairLitId =>
        if opcode != G.opSwitch then none else
        match a.ops with
        | .w v sel :: _ =>
          if v != G.vIdRef then none else
          (literal G τ sel ws).bind fun p => (word1 p.2).bind fun q =>
            some ({ a with ops := a.ops ++ [p.1, .w G.vIdRef q.1] }, q.2)
        | _ => none
      | .specOp => (specOp G ws).bind fun p => some ({ a with ops := a.ops ++ p.1 }, p.2)
      | .plain => (operand G kind ws).bind fun p => some ({ a with ops := a.ops ++ p.1 }, p.2) := by
  unfold one
  rw [ite_oneKind]
  cases oneKind G kind
  · rcases ws with _ | ⟨w, t⟩ <;> rfl
  · rcases ws with _ | ⟨w, t⟩ <;> rfl
  · refine congrArg (ite _ _) ?_
    rcases a.rtype with _ | ty <;> try rfl
    dsimp only
    rcases literal G τ ty ws with _ | ⟨o, t⟩ <;> rfl
  · refine congrArg (ite _ _) ?_
    rcases a.ops with _ | ⟨_ | _ | _, _⟩ <;> try rfl
    dsimp only
    congr 1
    rcases literal G τ _ ws with _ | ⟨lit, _ | ⟨tgt, t⟩⟩ <;> rfl
  · rcases specOp G ws with _ | ⟨os, t⟩ <;> rfl
  · rcases operand G kind ws with _ | ⟨os, t⟩ <;> rfl

theorem loop_cons (G : Tables) (τ : Tracker) (opcode fuel k q : Nat) (rest : List (Nat × Nat)) (a : Acc) (ws : List Nat) :
    loop G τ opcode (fuel + 1) ((k, q) :: rest) a ws =
      if !ws.isEmpty then
        (one G τ opcode k a ws).bind fun p => loop G τ opcode fuel (if q == 2 then (k, q) :: rest else rest) p.1 p.2
      else if q == 0 then none
      else some (a, ws) := by
  rw [loop]
  congr 1
  rcases one G τ opcode k a ws with _ | ⟨a1, t⟩ <;> try rfl
  dsimp only [Option.bind_some]
  split <;> rfl

end Spec

end Rspirv.Model
