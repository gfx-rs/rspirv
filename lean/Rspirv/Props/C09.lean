import Rspirv.Generated.Spirv
import Rspirv.Generated.Grammar
import Rspirv.Reference.PinnedGrammar
/-!
# C09 — grammar tables are total, unique and match the pinned grammar

`lookup_opcode`/`get` of `grammar/syntax.rs` are modelled by `lookupOpcode` (first entry whose opcode
equals the number); the correspondence check compares that model with the real functions on all 65 536
numbers. Everything else is a table check over the regenerated tables.
-/
namespace Rspirv.Props.C09
open Rspirv Rspirv.Generated.Grammar Rspirv.Generated.Spirv

def K : KindIx := { idResultType := kind_IdResultType, idResult := kind_IdResult }

def nameOp (t : List Entry) : List (Nat × Nat) := t.map (fun e => (e.name, e.opcode))

/-- what is checked of one table against its opcode enumeration: names and numbers are the enumeration's (which lists them by
ascending number, so only the table side is sorted), numbers are pairwise distinct, every entry passes `p` -/
structure TableOk (t : List Entry) (E : EnumSpec) (p : Entry → Bool) : Prop where
  names : sortsTo (nameOp t) E.decl = true
  opcodes : nodupCheck (t.map (·.opcode)) = true
  entries : t.all p = true

instance (t : List Entry) (E : EnumSpec) (p : Entry → Bool) : Decidable (TableOk t E p) :=
  decidable_of_iff (_ ∧ _ ∧ _) ⟨fun ⟨a, b, c⟩ => ⟨a, b, c⟩, fun ⟨a, b, c⟩ => ⟨a, b, c⟩⟩

/-- the table check; core numbers also fit 16 bits (`inst.opcode as u16`) -/
theorem tables_ok : TableOk coreTable enum_Op (fun e => decide (e.opcode < 65536) && e.wf K kinds.length) ∧
    TableOk glslTable enum_GLOp (·.wf K kinds.length) ∧ TableOk openclTable enum_CLOp (·.wf K kinds.length) := by
  decide +kernel

section
variable {t : List Entry} {E : EnumSpec} {p : Entry → Bool} (h : TableOk t E p)
include h

theorem TableOk.perm : (nameOp t).Perm E.decl := perm_of_sortsTo _ _ h.names

theorem TableOk.entry {e : Entry} (he : e ∈ t) : p e = true := List.all_eq_true.1 h.entries e he

theorem TableOk.names_nodup (hn : nodupCheck (E.decl.map (·.1)) = true) : nodupCheck (t.map (·.name)) = true := by
  have e : t.map (·.name) = (nameOp t).map (·.1) := by simp [nameOp]
  exact nodupCheck_of_nodup _ (e ▸ (h.perm.map (·.1)).nodup_iff.2 (nodup_of_check _ hn))

theorem TableOk.total_unique (n : Nat) :
    ((lookupOpcode t n).isSome ↔ n ∈ E.declVals) ∧
    (∀ e, lookupOpcode t n = some e → e.opcode = n ∧ (e.name, n) ∈ E.decl) ∧
    (∀ e ∈ t, lookupOpcode t e.opcode = some e) := by
  refine ⟨?_, ?_, ?_⟩
  · rw [lookupOpcode_isSome]
    have : (t.map (·.opcode)) = (nameOp t).map (·.2) := by simp [nameOp]
    rw [this]
    exact (h.perm.map (·.2)).mem_iff
  · intro e he
    obtain ⟨hm, ho⟩ := lookupOpcode_some t n e he
    refine ⟨ho, ?_⟩
    apply h.perm.mem_iff.1
    exact List.mem_map.2 ⟨e, hm, by simp [ho]⟩
  · intro e he
    exact lookupOpcode_unique t (nodup_of_check _ h.opcodes) e he

end

theorem core_entry (e : Entry) (he : e ∈ coreTable) : e.opcode < 65536 ∧ e.wf K kinds.length = true := by
  simpa using tables_ok.1.entry he

/-- **C09 (core table).** For every number `n` (in particular all 65 536 16-bit numbers): the lookup
returns an entry iff `n` is a declared opcode; the entry's opcode is `n` and its name is that opcode's
name in `spirv::Op`; looking up by a declared opcode never fails and returns the unique entry. -/
theorem C09_core (n : Nat) :
    ((lookupOpcode coreTable n).isSome ↔ n ∈ enum_Op.declVals) ∧
    (∀ e, lookupOpcode coreTable n = some e → e.opcode = n ∧ (e.name, n) ∈ enum_Op.decl) ∧
    (∀ e ∈ coreTable, lookupOpcode coreTable e.opcode = some e) :=
  tables_ok.1.total_unique n

/-- `CoreInstructionTable::get(op)` never reaches its `expect`: every declared opcode has an entry. -/
theorem C09_get (d : Nat × Nat) (hd : d ∈ enum_Op.decl) : (lookupOpcode coreTable d.2).isSome := by
  rw [(C09_core d.2).1]
  exact List.mem_map.2 ⟨d, hd, rfl⟩

theorem C09_glsl (n : Nat) :
    ((lookupOpcode glslTable n).isSome ↔ n ∈ enum_GLOp.declVals) ∧
    (∀ e, lookupOpcode glslTable n = some e → e.opcode = n ∧ (e.name, n) ∈ enum_GLOp.decl) ∧
    (∀ e ∈ glslTable, lookupOpcode glslTable e.opcode = some e) :=
  tables_ok.2.1.total_unique n

theorem C09_opencl (n : Nat) :
    ((lookupOpcode openclTable n).isSome ↔ n ∈ enum_CLOp.declVals) ∧
    (∀ e, lookupOpcode openclTable n = some e → e.opcode = n ∧ (e.name, n) ∈ enum_CLOp.decl) ∧
    (∀ e ∈ openclTable, lookupOpcode openclTable e.opcode = some e) :=
  tables_ok.2.2.total_unique n

/-- **C09 (well-formed entries).** Every entry of the three tables: result type/result id lead, no required
operand after an optional one, a variadic operand only last. -/
theorem C09_wf (e : Entry) (he : e ∈ coreTable ∨ e ∈ glslTable ∨ e ∈ openclTable) :
    resultsLead K e.ops = true ∧ QuantShape e.ops := by
  rcases he with h | h | h
  · exact Entry.wf_shape (core_entry e h).2
  · exact Entry.wf_shape (tables_ok.2.1.entry h)
  · exact Entry.wf_shape (tables_ok.2.2.entry h)

/-- **C09 (pinned).** Kinds, quantifiers, capabilities and extensions of every entry equal the snapshot of
the pinned SDK release. -/
theorem C09_pinned : kinds = Rspirv.Reference.PinnedGrammar.kinds ∧
    coreTable = Rspirv.Reference.PinnedGrammar.coreTable ∧
    glslTable = Rspirv.Reference.PinnedGrammar.glslTable ∧
    openclTable = Rspirv.Reference.PinnedGrammar.openclTable := ⟨rfl, rfl, rfl, rfl⟩

example : coreTable.length = 787 ∧ (lookupOpcode coreTable 3).isSome = true ∧ (lookupOpcode coreTable 9).isSome = false := by
  decide +kernel

end Rspirv.Props.C09
