import Rspirv.Props.Reload
import Rspirv.Props.C02
import Rspirv.Props.C03
import Rspirv.Model.Hyp
/-!
# Assemble, then load: the whole pipeline on a canonical module

`assemble_load`: for a canonical module `m` (see `Props/Reload.lean`) whose header is one the parser would rebuild and
whose instruction traversal is a stream of instructions of the grammar (`GrammarStream`: each instruction is one the
recogniser `Spec.inst` produces under the types tracked so far), `load_bytes` applied to the little-endian bytes of the
words `Module::assemble` emits returns exactly `m`.

The proof follows the words through the pipeline: they are the header and the per-instruction encodings in traversal
order (C15); the recogniser reads the encodings back (`C02_spec`); the parser delivers exactly the recognised
instructions and that header (C03); the loader rebuilds `m` from them (`load_canon`).
-/
namespace Rspirv.Props.RoundTrip
open Rspirv Rspirv.Model Rspirv.Model.DState Rspirv.Props.C04 Rspirv.Props.ParserSpec Rspirv.Props.C02 Rspirv.Props.C03
open Rspirv.Props.Reload Rspirv.Props.C01

/-- a stream of instructions of the grammar: each one is produced by the recogniser from *some* words under the types
tracked so far, its encoding fits the 16-bit word count, and the tracker accepts it -/
def GrammarStream (G : Tables) : Tracker → List Inst → Prop
  | _, [] => True
  | τ, i :: t => (∃ ws rest, Spec.inst G τ ws = some (i, rest)) ∧ (assembleInst i).length < 65536 ∧
      ∃ τ1, τ.track G.tt i = some τ1 ∧ GrammarStream G τ1 t

/-- the recogniser reads a grammar stream back from the concatenation of the assembler's encodings -/
theorem insts_asm (G : Tables) (good : GoodTables G) : ∀ (is : List Inst) (τ : Tracker) (fuel : Nat),
    GrammarStream G τ is → is.length ≤ fuel → Spec.insts G fuel τ (is.flatMap assembleInst) = (is, []) := by
  intro is τ fuel h hf
  induction is generalizing τ fuel with
  | nil => cases fuel with
    | zero => rfl
    | succ f => exact Spec.insts_stop f rfl
  | cons i t ih =>
    obtain ⟨⟨ws, rest, hi⟩, hlen, τ1, htr, ht⟩ := h
    cases fuel with
    | zero => cases hf
    | succ f =>
      rw [List.flatMap_cons, Spec.insts_step f (C02_spec G good τ ws i rest hi hlen _) htr,
        ih τ1 f ht (Nat.le_of_succ_le_succ hf)]

theorem grammarStreamB_sound (G : Tables) : ∀ (is : List Inst) (τ : Tracker), grammarStreamB G τ is = true →
    GrammarStream G τ is
  | [], _, _ => trivial
  | i :: t, τ, h => by
    simp only [grammarStreamB, Bool.and_eq_true, decide_eq_true_eq] at h
    obtain ⟨⟨h1, h2⟩, h3⟩ := h
    cases ht : τ.track G.tt i with
    | none => rw [ht] at h3; cases h3
    | some τ1 =>
      rw [ht] at h3
      exact ⟨⟨_, _, h1⟩, h2, τ1, ht, grammarStreamB_sound G t τ1 h3⟩

theorem wordBytes_length (w : Nat) : (Spec.wordBytes w).length = 4 := rfl

theorem streamWords_bytes (hdr ws : List Nat) (hh : hdr.length = 5) (hw : WordsOk (hdr ++ ws)) :
    Spec.streamWords ((hdr ++ ws).flatMap Spec.wordBytes) = ws := by
  apply List.ext_getElem
  · simp only [Spec.streamWords, List.length_map, List.length_range, flatMap_wordBytes_length, List.length_append, hh]
    omega
  · intro k h1 h2
    simp only [Spec.streamWords, List.getElem_map, List.getElem_range]
    -- the header's bytes are the prefix
    have := le32_flatMap (hdr.flatMap Spec.wordBytes) ws (fun w h => hw w (List.mem_append_right _ h)) k h2
    rwa [flatMap_wordBytes_length, hh, ← List.flatMap_append] at this

theorem C03_accept_header (G : Tables) (hT : tablesSafe G = true) (bytes : List Nat) (hb : ∀ b ∈ bytes, b < 256)
    (hs : bytes.length < 2 ^ 63) (h20 : 20 ≤ bytes.length) (hmagic : le32 bytes 0 = G.magic) :
    ((parse G (fun _ => .continue_) bytes).result = .ok () ↔
      (Spec.insts G (bytes.length + 1) [] (Spec.streamWords bytes)).2 = []) ∧
    (parse G (fun _ => .continue_) bytes).trace =
      .init :: .header ⟨G.magic, (le32 bytes 4 / 65536 % 256) * 65536 + (le32 bytes 4 / 256 % 256) * 256, 0x000f0000,
          le32 bytes 12, 0⟩ ::
        (Spec.insts G (bytes.length + 1) [] (Spec.streamWords bytes)).1.map Ev.inst ++
        (if (Spec.insts G (bytes.length + 1) [] (Spec.streamWords bytes)).2 = [] then [Ev.fin] else []) := 
  C03_accept_headerOf G hT bytes hb hs h20 hmagic

theorem length_le_asm (l : List Inst) : l.length ≤ (l.flatMap assembleInst).length := by
  induction l with
  | nil => exact Nat.le_refl 0
  | cons i t ih => simp only [List.flatMap_cons, List.length_append, List.length_cons, assembleInst]; omega

/-- **Assemble, then load.** `m` canonical with the header the parser would rebuild (rspirv's magic number and
generator word, reserved word zero, a version word with only the major and minor bytes set), its traversal a stream of
instructions of the grammar, all emitted words below 2^32 and the binary shorter than 2^63 bytes: `load_bytes` of the
bytes of `m.assemble()` is `Ok(m)`. -/
theorem assemble_load (G : Tables) (L : LTables) (hT : tablesSafe G = true) (good : GoodTables G)
    (m : Module Inst) (hd : Header) (hm : m.header = some hd) (hc : Canon L m)
    (hmagic : hd.magic = G.magic) (hgen : hd.generator = 0x000f0000) (hres : hd.reserved = 0)
    (hver : hd.version = (hd.version / 65536 % 256) * 65536 + (hd.version / 256 % 256) * 256)
    (hg : GrammarStream G [] (Rspirv.Props.C15.allInstIter m))
    (hw : WordsOk (Rspirv.Props.C15.assemble assembleInst m))
    (hsmall : 4 * (Rspirv.Props.C15.assemble assembleInst m).length < 2 ^ 63) :
    loadBytes G L ((Rspirv.Props.C15.assemble assembleInst m).flatMap Spec.wordBytes) = .ok m := by
  rw [Rspirv.Props.C15.C15_assemble_header assembleInst m hm] at hw hsmall ⊢
  have hl := load_canon L hd m hc
  generalize Rspirv.Props.C15.allInstIter m = is at hg hw hsmall hl ⊢
  generalize hbytes : List.flatMap Spec.wordBytes _ = bytes
  have hlen : bytes.length = 4 * ((is.flatMap assembleInst).length + 5) := by
    rw [← hbytes, flatMap_wordBytes_length]; rfl
  -- room for the header, the bound on the binary, fuel for every instruction
  have hsize : 20 ≤ bytes.length ∧ bytes.length < 2 ^ 63 ∧ is.length ≤ bytes.length + 1 := by
    have := length_le_asm is
    simp only [List.length_append, List.length_cons, List.length_nil] at hsmall
    omega
  have w0 : le32 bytes 0 = hd.magic := hbytes ▸ le32_flatMap [] _ hw 0 (by simp)
  have w1 : le32 bytes 4 = hd.version := hbytes ▸ le32_flatMap [] _ hw 1 (by simp)
  have w3 : le32 bytes 12 = hd.bound := hbytes ▸ le32_flatMap [] _ hw 3 (by simp)
  obtain ⟨a1, a2⟩ := C03_accept_header G hT bytes (hbytes ▸ flatMap_wordBytes_lt _) hsize.2.1 hsize.1 (w0.trans hmagic)
  rw [← hbytes, streamWords_bytes _ _ rfl hw, hbytes, insts_asm G good is [] _ hg hsize.2.2] at a1 a2
  -- the header the parser rebuilds is `hd`, field by field
  rw [if_pos rfl, w1, w3, ← hver, ← hmagic, ← hgen, ← hres] at a2
  exact loadBytes_ok.2 ⟨a1.2 rfl, hd, _, a2, hl.trans (congrArg _ (Module.with_header m hm))⟩

theorem parseLoop_prefix (G : Tables) (script : Nat → Action) (fuel : Nat) (τ : Tracker) (k idx : Nat) (d : DState)
    (tr : List Ev) : ∃ suf, (parseLoop G script fuel τ k idx d tr).trace = tr.reverse ++ suf := by
  -- the loop goes on after an instruction (4), the consumer ends it after an event (3, 5, 6), or it ends without one
  fun_induction parseLoop G script fuel τ k idx d tr with
  | case4 _ _ _ _ _ _ i _ _ _ _ _ _ ih =>
    obtain ⟨suf, hs⟩ := ih
    exact ⟨.inst i :: suf, by rw [hs, List.reverse_cons, List.append_assoc]; rfl⟩
  | case3 | case5 | case6 => exact ⟨_, List.reverse_cons⟩
  | _ => exact ⟨[], (List.append_nil _).symm⟩

/-- a version word built from two bytes is rebuilt from its own bytes 2 and 1 (one division at a time: `omega` on the
whole equation, with its four nested quotients, is twice as dear) -/
theorem version_word (a b : Nat) (ha : a < 256) (hb : b < 256) :
    a * 65536 + b * 256 = ((a * 65536 + b * 256) / 65536 % 256) * 65536 + ((a * 65536 + b * 256) / 256 % 256) * 256 := by
  have h2 : (a * 65536 + b * 256) / 65536 = a := by omega
  have h1 : (a * 65536 + b * 256) / 256 = a * 256 + b := by omega
  rw [h2, h1, Nat.mod_eq_of_lt ha, Nat.mul_add_mod_self_right, Nat.mod_eq_of_lt hb]

theorem version_lt (a b : Nat) : a % 256 * 65536 + b % 256 * 256 < 4294967296 := by omega

theorem parse_header_form (G : Tables) (script : Nat → Action) (bytes : List Nat) (hd : Header) (rest : List Ev)
    (h : (parse G script bytes).trace = .init :: .header hd :: rest) :
    hd.magic = G.magic ∧ hd.generator = 0x000f0000 ∧ hd.reserved = 0 ∧
      hd.version = (hd.version / 65536 % 256) * 65536 + (hd.version / 256 % 256) * 256 := by
  -- a header event is what `parseHeader` returned, whether or not the instruction loop was entered
  have key : ∃ d1, parseHeader G (DState.new bytes) = (.ok hd, d1) := by
    revert h
    fun_cases parse G script bytes with
    | case2 _ x d1 hx => rintro ⟨⟩; exact ⟨d1, hx⟩
    | case3 _ x d1 hx =>
      obtain ⟨suf, hs⟩ := parseLoop_prefix G script (bytes.length + 1) [] 2 0 d1 [.header x, .init]
      rw [hs]; rintro ⟨⟩; exact ⟨d1, hx⟩
    | _ => exact fun h => nomatch h
  obtain ⟨d1, hx⟩ := key
  rcases parseHeader_cases G (DState.new bytes) with ⟨_, _, _, h'⟩ | ⟨_, _, _, _, _, _, h'⟩ | ⟨_, _, _, _, h'⟩ | ⟨_, _, _, h'⟩ <;>
    rw [h'] at hx <;> cases hx
  exact ⟨rfl, rfl, rfl, version_word _ _ (Nat.mod_lt _ (by decide)) (Nat.mod_lt _ (by decide))⟩

/-- **C01 (reload, byte level).** A binary that `load_bytes` accepts as `m`: if the traversal of `m` — the input's
instructions regrouped in layout order — is still a stream of instructions of the grammar (it always is unless the
regrouping moves a numeric type declaration in front of an instruction whose literal width it then changes; recorded
finding `C01:reload-literal-width-late-type`), then `load_bytes` of the bytes of `m.assemble()` is `Ok(m)` again. -/
theorem C01_reload_bytes (G : Tables) (L : LTables) (hT : tablesSafe G = true) (good : GoodTables G)
    (bytes : List Nat) (m : Module Inst) (h : loadBytes G L bytes = .ok m)
    (hg : GrammarStream G [] (Rspirv.Props.C15.allInstIter m))
    (hw : WordsOk (Rspirv.Props.C15.assemble assembleInst m))
    (hsmall : 4 * (Rspirv.Props.C15.assemble assembleInst m).length < 2 ^ 63) :
    loadBytes G L ((Rspirv.Props.C15.assemble assembleInst m).flatMap Spec.wordBytes) = .ok m := by
  obtain ⟨hd, is, htr, hl⟩ := C01_loadBytes G L bytes m h
  obtain ⟨f1, f2, f3, f4⟩ := parse_header_form G _ bytes hd _ htr
  exact assemble_load G L hT good m hd (load_header hl) (canon_of_load L hd is m hl) f1 f2 f3 f4 hg hw hsmall

end Rspirv.Props.RoundTrip
