import Rspirv.Props.RoundTrip
import Rspirv.Props.C12
import Rspirv.Model.Hyp
/-!
# C06 — a module built by a complete plain Builder history is canonical

`PlainAt L s c`: the call `c`, made in state `s`, is one of the instruction-emitting or structural calls (no
`select_function` / `select_block` / `pop_instruction` / raw insertion, no `begin_block_no_label` — recorded finding),
files an instruction of an opcode the loader files the same way (shown for the generated methods by `C06.C06_methods`, for the
hand-written ones by `C06End.hand_plain`), a terminator is appended at the end of its block (`End` or `FromEnd(0)`), and
`end_function` is not called while a block is open ("each begun block ended by a terminator").

Plain calls keep `BInv`: the module sections canonical; every function but the selected one canonical; the selected function
the last one, open, all its blocks canonical except the selected one, which is the last, labelled and free of terminators.
So a plain history from any state with `BInv` that leaves no function open ends in a module the loader reads back
(`Reload.Canon`). The header a history leaves (`HdrOk`) is kept apart: it holds along every history, plain or not.
-/
namespace Rspirv.Props.C06Round
open Rspirv Rspirv.Model Rspirv.Props.Reload Rspirv.Props.C12

/-- the opcodes the structural methods emit are the ones the loader's structural arms dispatch on -/
structure StructOk (L : LTables) (B : BTables) : Prop where
  fn : classify L B.opFunction = .fn
  fnEnd : classify L B.opFunctionEnd = .fnEnd
  param : classify L B.opFunctionParameter = .param
  label : classify L B.opLabel = .label

def Shape (L : LTables) (fs : List (Function Inst)) : Option Nat → Option Nat → Prop
  | none, sb => sb = none ∧ ∀ f ∈ fs, FnCanon L f
  | some j, sb => ∃ closed f, fs = closed ++ [f] ∧ j = closed.length ∧ (∀ g ∈ closed, FnCanon L g) ∧ FnOpen L f sb

structure BInv (L : LTables) (s : BState) : Prop where
  top : Top L s.module
  shape : Shape L s.module.functions s.selFn s.selBlk

def PlainAt (L : LTables) (s : BState) : Call → Prop
  | .id => True
  | .setVersion _ _ => True
  | .beginFunction _ _ _ _ => True
  | .endFunction => s.selBlk = none
  | .functionParameter _ => True
  | .beginBlock _ => True
  | .blockInst _ op _ _ _ => classify L op = .other
  | .terminator ip op _ => (ip = .end_ ∨ ip = .fromEnd 0) ∧ classify L op = .term
  | .moduleInst k op _ _ _ => classify L op = .sect k
  | .varUndef op _ _ _ => classify L op = .varOp ∨ classify L op = .undefOp
  | .lineLike op _ => classify L op = .line
  | .typeRequest op _ _ => classify L op = .sect 10
  | _ => False

def PlainRun (L : LTables) (B : BTables) : BState → List Call → Prop
  | _, [] => True
  | s, c :: cs => PlainAt L s c ∧ PlainRun L B (s.step B c).1 cs

theorem top_functions (L : LTables) (m : Module Inst) (fs : List (Function Inst)) (h : Top L m) :
    Top L { m with functions := fs } :=
  h

theorem top_header (L : LTables) (m : Module Inst) (hd : Option Header) (h : Top L m) :
    Top L { m with header := hd } :=
  h

/-- pushing into a section keeps the invariant when the loader files the opcode there (`lineLike`, `variable` and `undef`
outside a block go to section 10) -/
theorem BInv.push {L : LTables} {s : BState} (h : BInv L s) (i : Inst) (k n : Nat) (ht : topDest L i.opcode = some k) :
    BInv L ⟨s.module.push k i, n, s.selFn, s.selBlk⟩ :=
  ⟨h.top.push ht, by simpa [Module.push_functions] using h.shape⟩

theorem BInv.push_sect {L : LTables} {s : BState} (h : BInv L s) (i : Inst) (k n : Nat)
    (hc : classify L i.opcode = .sect k) : BInv L ⟨s.module.push k i, n, s.selFn, s.selBlk⟩ :=
  h.push i k n (by unfold topDest; rw [hc])

theorem set_last {α} (l : List α) (x y : α) : (l ++ [x]).set l.length y = l ++ [y] := by simp

theorem Blocks.sel {L : LTables} {bs : List (Block Inst)} {k : Nat} (h : Blocks L bs (some k)) :
    ∃ b, bs[k]? = some b ∧ BlockOpen L b ∧ (∀ b', BlockOpen L b' → Blocks L (bs.set k b') (some k)) ∧
      ∀ b', BlockCanon L b' → Blocks L (bs.set k b') none := by
  obtain ⟨done, b, rfl, rfl, hdone, hb⟩ := h
  refine ⟨b, List.getElem?_concat_length, hb, fun b' hb' => ?_, fun b' hb' => ?_⟩ <;> rw [set_last]
  · exact ⟨done, b', rfl, rfl, hdone, hb'⟩
  · exact forall_mem_append_singleton hdone hb'

/-- the selected function: it is there and open, and the invariant holds again with an open function in its place (whatever
the counter), or with a finished one and nothing selected -/
theorem BInv.fn {L : LTables} {s : BState} {j : Nat} (h : BInv L s) (hj : s.selFn = some j) :
    ∃ f, s.module.functions[j]? = some f ∧ FnOpen L f s.selBlk ∧
      (∀ f' n sb, FnOpen L f' sb →
        BInv L ⟨{ s.module with functions := s.module.functions.set j f' }, n, s.selFn, sb⟩) ∧
      ∀ f' n, FnCanon L f' → BInv L ⟨{ s.module with functions := s.module.functions.set j f' }, n, none, none⟩ := by
  obtain ⟨htop, hshape⟩ := h
  rw [hj] at hshape
  obtain ⟨closed, f, hf, rfl, hclosed, ho⟩ := hshape
  refine ⟨f, hf ▸ List.getElem?_concat_length, ho, fun f' n sb ho' => ⟨top_functions L _ _ htop, ?_⟩,
    fun f' n hc => ⟨top_functions L _ _ htop, rfl, ?_⟩⟩
  · show Shape L (s.module.functions.set closed.length f') s.selFn sb
    rw [hj, hf, set_last]
    exact ⟨closed, f', rfl, rfl, hclosed, ho'⟩
  · show ∀ g ∈ s.module.functions.set closed.length f', FnCanon L g
    rw [hf, set_last]
    exact forall_mem_append_singleton hclosed hc

/-- `updBlock` on the selected block: the block `g` is given is there and open, and the invariant holds again if `g` leaves it
open, or finishes it and no block is selected afterwards -/
theorem BInv.blk {L : LTables} {s : BState} {f b : Nat} {g : Block Inst → Option (Block Inst)} {m' : Module Inst}
    (h : BInv L s) (hf : s.selFn = some f) (hb : s.selBlk = some b) (hu : updBlock s.module f b g = some m') :
    ∃ blk blk', g blk = some blk' ∧ BlockOpen L blk ∧ (BlockOpen L blk' → ∀ n, BInv L ⟨m', n, s.selFn, s.selBlk⟩) ∧
      (BlockCanon L blk' → ∀ n, BInv L ⟨m', n, s.selFn, none⟩) := by
  obtain ⟨fn, blk, blk', hfn, hblk, hg, rfl⟩ := updBlock_eq_some.1 hu
  obtain ⟨_, hfn', ⟨d, hd, hcd, hps, hbs⟩, hset, _⟩ := h.fn hf
  cases hfn.symm.trans hfn'
  rw [hb] at hbs
  obtain ⟨_, hblk', hopen, hkeep, hclose⟩ := Blocks.sel hbs
  cases hblk.symm.trans hblk'
  exact ⟨blk, blk', hg, hopen, fun hb' n => hb ▸ hset _ n _ ⟨d, hd, hcd, hps, hkeep _ hb'⟩,
    fun hb' n => hset _ n _ ⟨d, hd, hcd, hps, hclose _ hb'⟩⟩

theorem binv_nextId (L : LTables) (s : BState) (n : Nat) (h : BInv L s) : BInv L { s with nextId := n } :=
  ⟨h.top, h.shape⟩

/-- inserting an in-block instruction into the selected block keeps the invariant (or changes nothing) -/
theorem binv_insert (L : LTables) (s : BState) (ip : InsertPoint) (i : Inst) (h : BInv L s)
    (hi : inBlock L i.opcode = true) : BInv L (insertIntoBlock s ip i).1 := by
  rcases insertIntoBlock_eq s ip i with ⟨_, e⟩ | ⟨f, b, hf, hb, ⟨_, e⟩ | ⟨m', hu, e⟩⟩ <;> rw [e]
  · exact h
  · exact h
  · obtain ⟨blk, _, hg, ⟨lb, hlb, hc, hins⟩, hkeep, _⟩ := h.blk hf hb hu
    obtain ⟨l, hl, rfl⟩ := Option.map_eq_some_iff.1 hg
    refine hkeep ⟨lb, hlb, hc, fun x hx => ?_⟩ _
    rcases (mem_insertAt hl).1 hx with hx | rfl
    · exact hins x hx
    · exact hi

theorem insert_sel (s : BState) (ip : InsertPoint) (i : Inst) :
    (insertIntoBlock s ip i).1.selFn = s.selFn ∧ (insertIntoBlock s ip i).1.selBlk = s.selBlk := by
  rcases insertIntoBlock_eq s ip i with ⟨_, e⟩ | ⟨f, b, _, _, ⟨_, e⟩ | ⟨m', _, e⟩⟩ <;> rw [e] <;> exact ⟨rfl, rfl⟩

theorem step_binv (L : LTables) (B : BTables) (hso : StructOk L B) (s : BState) (c : Call) (h : BInv L s)
    (hp : PlainAt L s c) : BInv L (s.step B c).1 := by
  cases c with
  | id => exact ⟨h.top, h.shape⟩
  | setVersion a b => exact ⟨top_header L _ _ h.top, h.shape⟩
  | beginFunction rt fid control ftype =>
    rcases s with ⟨m, n, _ | j, sb⟩
    · obtain ⟨htop, rfl, hall⟩ := h
      cases fid <;> exact ⟨top_functions L _ _ htop, m.functions, _, rfl, rfl, hall, _, rfl, hso.fn, (fun _ h => nomatch h),
        fun _ h => nomatch h⟩
    · exact h
  | endFunction =>
    rcases s with ⟨m, n, _ | j, sb⟩
    · exact h
    · obtain ⟨f, hf, ⟨d, hd, hcd, hps, hbs⟩, _, hclose⟩ := h.fn rfl
      cases (show sb = none from hp)
      dsimp only [BState.step]
      rw [hf]
      exact hclose _ _ ⟨d, _, hd, rfl, hcd, hso.fnEnd, hps, hbs⟩
  | functionParameter rt =>
    rcases s with ⟨m, n, _ | j, sb⟩
    · exact h
    · obtain ⟨f, hf, ⟨d, hd, hcd, hps, hbs⟩, hset, _⟩ := h.fn rfl
      dsimp only [BState.step]
      rw [hf]
      exact hset _ _ _ ⟨d, hd, hcd, forall_mem_append_singleton hps hso.param, hbs⟩
  | beginBlock label =>
    rcases s with ⟨m, n, _ | j, _ | b⟩
    · exact h
    · exact h
    · obtain ⟨f, hf, ⟨d, hd, hcd, hps, hbs⟩, hset, _⟩ := h.fn rfl
      cases label <;> dsimp only [BState.step] <;> rw [hf] <;>
        exact hset _ _ _ ⟨d, hd, hcd, hps, f.blocks, _, rfl, rfl, hbs, _, rfl, hso.label, fun _ h => nomatch h⟩
    · exact h
  | blockInst ip op rtype rule ops =>
    dsimp only [BState.step]
    obtain ⟨n, ha, _⟩ := allocId_eq s rule
    rw [ha]
    have h2 := binv_insert L _ ip ⟨op, rtype, (allocId s rule).2, ops⟩ (binv_nextId L s n h)
      (by unfold inBlock; rw [show classify L op = .other from hp])
    -- `step` looks at the outcome only to choose what it returns: every arm keeps the state
    generalize insertIntoBlock _ ip _ = r at h2
    obtain ⟨s2, o⟩ := r
    cases o <;> exact h2
  | terminator ip op ops =>
    obtain ⟨hip, hc⟩ := hp
    dsimp only [BState.step]
    split
    · rcases insertIntoBlock_eq s ip ⟨op, none, none, ops⟩ with ⟨_, e⟩ | ⟨f, b, hf, hb, ⟨_, e⟩ | ⟨m', hu, e⟩⟩ <;> rw [e]
      · exact h
      · exact h
      · obtain ⟨blk, _, hg, hopen, _, hclose⟩ := h.blk hf hb hu
        rw [insertAt_end _ _ hip] at hg
        cases hg
        exact hclose (hopen.close hc) _
    · exact h
  | moduleInst k op rtype rule ops =>
    dsimp only [BState.step]
    obtain ⟨n, ha, _⟩ := allocId_eq s rule
    rw [ha]
    exact h.push_sect _ k n hp
  | varUndef op rt rid ops =>
    have htd : topDest L op = some 10 := by unfold topDest; rcases hp with hp | hp <;> rw [hp]
    have hin : inBlock L op = true := by unfold inBlock; rcases hp with hp | hp <;> rw [hp]
    obtain ⟨n, _, e⟩ := s.step_varUndef B op rt rid ops
    rw [e]
    split
    · rename_i f b hf hb
      split
      · rename_i m' hu
        obtain ⟨blk, _, hg, ⟨lb, hlb, hcl, hins⟩, hkeep, _⟩ := h.blk hf hb hu
        cases hg
        exact hkeep ⟨lb, hlb, hcl, forall_mem_append_singleton hins hin⟩ _
      · exact binv_nextId L s _ h
    · exact h.push _ 10 _ htd
  | lineLike op ops =>
    have hc : classify L op = .line := hp
    dsimp only [BState.step]
    split
    · have h2 := binv_insert L s .end_ ⟨op, none, none, ops⟩ h (by unfold inBlock; rw [hc])
      -- as for `blockInst`
      generalize insertIntoBlock s .end_ _ = r at h2
      obtain ⟨s2, o⟩ := r
      cases o <;> exact h2
    · exact h.push _ 10 _ (by unfold topDest; rw [hc])
  | typeRequest op rid ops =>
    cases rid with
    | some v => exact h.push_sect _ 10 _ hp
    | none =>
      dsimp only [BState.step]
      split
      · exact h
      · exact h.push_sect _ 10 _ hp
  | _ => cases hp

theorem run_binv (L : LTables) (B : BTables) (hso : StructOk L B) : ∀ (cs : List Call) (s : BState),
    BInv L s → PlainRun L B s cs → BInv L (BState.run B s cs).1
  | [], _, h, _ => h
  | c :: cs, s, h, hp => run_binv L B hso cs _ (step_binv L B hso s c h hp.1) hp.2

theorem binv_new (L : LTables) : BInv L BState.new := by
  refine ⟨⟨fun k _ _ i hi => ?_, fun _ h => nomatch h⟩, rfl, fun _ h => nomatch h⟩
  unfold Module.sect at hi
  split at hi <;> cases hi

/-- a complete plain history from any state with the invariant (a new builder: `binv_new`) ends in a canonical module -/
theorem canon_of_run (L : LTables) (B : BTables) (hso : StructOk L B) (cs : List Call) (s : BState) (h : BInv L s)
    (hp : PlainRun L B s cs) (hc : (BState.run B s cs).1.selFn = none) : Canon L ((BState.run B s cs).1.finish B) := by
  obtain ⟨htop, hshape⟩ := run_binv L B hso cs s h hp
  rw [BState.finish_eq]
  rw [hc] at hshape
  exact ⟨(top_header L _ _ htop).1, (top_header L _ _ htop).2, hshape.2⟩

/-- **C06 (built modules are canonical).** After a complete plain history — no function left open — the module handed
out by `Builder::module()` is canonical. -/
theorem C06_canon (L : LTables) (B : BTables) (hso : StructOk L B) (cs : List Call) (hp : PlainRun L B BState.new cs)
    (hc : (BState.run B BState.new cs).1.selFn = none) : Canon L ((BState.run B BState.new cs).1.finish B) :=
  canon_of_run L B hso cs _ (binv_new L) hp hc

/-! ### the header of a built module -/

def VersionNormal (v : Nat) : Prop := v = (v / 65536 % 256) * 65536 + (v / 256 % 256) * 256

def HdrOk (B : BTables) : Option Header → Prop
  | none => True
  | some h => h.magic = B.magic ∧ h.generator = 0x000f0000 ∧ h.reserved = 0 ∧ VersionNormal h.version

theorem _root_.Rspirv.Model.ModStep.hdrOk {B : BTables} {m m' : Module Inst} {x : List Inst} (h : ModStep B m m' x)
    (hh : HdrOk B m.header) : HdrOk B m'.header := by
  cases h with
  | same | newFn | inFn | tgv => exact hh
  | push k i => rw [Module.push_header]; exact hh
  | version _ a b e =>
    subst e
    have hv : VersionNormal _ := Rspirv.Props.RoundTrip.version_word _ _ (Nat.mod_lt a (by decide)) (Nat.mod_lt b (by decide))
    cases hm : m.header with
    | none => exact ⟨rfl, rfl, rfl, hv⟩
    | some x =>
      rw [hm] at hh
      exact ⟨hh.1, hh.2.1, hh.2.2.1, hv⟩

theorem step_hdr (L : LTables) (B : BTables) (hdef : VersionNormal B.defaultVersion) (s : BState) (c : Call)
    (hp : PlainAt L s c) (h : HdrOk B s.module.header) : HdrOk B (s.step B c).1.module.header :=
  (C12.step_facts B s c).shape.hdrOk h

/-- along any history, plain or not -/
theorem run_hdr (B : BTables) : ∀ (cs : List Call) (s : BState),
    HdrOk B s.module.header → HdrOk B (BState.run B s cs).1.module.header
  | [], _, h => h
  | c :: cs, s, h => run_hdr B cs _ ((C12.step_facts B s c).shape.hdrOk h)

theorem finish_hdr (B : BTables) (hdef : VersionNormal B.defaultVersion) (s : BState) (h : HdrOk B s.module.header) :
    ∃ hd, (s.finish B).header = some hd ∧ hd.magic = B.magic ∧ hd.generator = 0x000f0000 ∧ hd.reserved = 0 ∧
      VersionNormal hd.version ∧ hd.bound = s.nextId := by
  rw [BState.finish_eq]
  cases hh : s.module.header with
  | none => exact ⟨_, rfl, rfl, rfl, rfl, hdef, rfl⟩
  | some x =>
    rw [hh] at h
    exact ⟨_, rfl, h.1, h.2.1, h.2.2.1, h.2.2.2, rfl⟩

/-! ### the executable forms of the hypotheses (what the driver reports per history) -/

theorem plainAtB_sound (L : LTables) (s : BState) (c : Call) (h : plainAtB L s c = true) : PlainAt L s c := by
  cases c <;> dsimp only [plainAtB, PlainAt] at h ⊢ <;> simp_all

theorem plainRunB_sound (L : LTables) (B : BTables) : ∀ (cs : List Call) (s : BState), plainRunB L B s cs = true →
    PlainRun L B s cs
  | [], _, _ => trivial
  | c :: cs, s, h => by
    simp only [plainRunB, Bool.and_eq_true] at h
    exact ⟨plainAtB_sound L s c h.1, plainRunB_sound L B cs _ h.2⟩

end Rspirv.Props.C06Round
