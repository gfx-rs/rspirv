import Rspirv.Props.C10
import Rspirv.Props.C14
import Rspirv.Model.LoadBytes
import Rspirv.Props.SpecEq
/-!
# C04 — parsing never panics

Every `assert!`, `expect`, index, `panic!()` and arithmetic overflow of `binary/parser.rs`, `binary/decoder.rs`,
`binary/tracker.rs` and of the generated `parse_operand` is an explicit `.panic site` outcome of the model
(`Rspirv.Model.Parser`, `Rspirv.Model.Decoder`), and so are the fuel bounds that make the model's loops structural.
This file proves that none of them is reachable: for every table set that passes the Boolean check `tablesSafe`
(decided by the kernel on the tables regenerated from the source), every byte string shorter than `2^63` (a Rust
slice) and every consumer behaviour, `parse` returns `ok` or an error value.

The check `tablesSafe` is an abstract interpretation of `parse_operands` over each grammar entry: it tracks whether
the result type has been read, whether the first collected operand is an `IdRef`, and a lower bound on the number of
collected operands, and refuses an entry on which a context-dependent kind could meet its `assert!`/`expect`/index
unprepared, or on which `TypeTracker::track` could index past the operands. Its soundness is `loop_safe`.
-/
namespace Rspirv.Props.C04
open Rspirv Rspirv.Model Rspirv.Model.DState Rspirv.Props.C11

/-- frame + no panic -/
@[reducible] def Safe {α : Type} (d : DState) (r : PRes IErr α × DState) : Prop :=
  Frame d r.2 ∧ ∀ s, r.1 ≠ .panic s

/-- success consumes at least one word -/
@[reducible] def Prog {α : Type} (d : DState) (r : PRes IErr α × DState) : Prop :=
  ∀ a, r.1 = .ok a → d.offset + 4 ≤ r.2.offset

/-- both: what a routine that reads at least one word promises (theorems other files use spell the conjunction out) -/
@[reducible] def SafeProg {α : Type} (d : DState) (r : PRes IErr α × DState) : Prop := Safe d r ∧ Prog d r

/-- … and `Q` holds of the value a success delivers -/
@[reducible] def SafeTo {α : Type} (d : DState) (r : PRes IErr α × DState) (Q : α → Prop) : Prop :=
  Safe d r ∧ Prog d r ∧ ∀ a, r.1 = .ok a → Q a

/-! ### table well-formedness (Boolean, decided by the kernel on the regenerated tables) -/

def elemOk (G : Tables) (e : Elem) : Bool :=
  (e.dec != 0 || decide (e.ix < G.enums.length)) && (e.dec != 1 || decide (e.ix < G.masks.length))

def actOk (G : Tables) : KindAct → Bool
  | .elems es => !es.isEmpty && es.all (elemOk G)
  | .maskParams e rows => elemOk G e && rows.all (fun r => r.2.all (elemOk G))
  | .enumParams e rows => elemOk G e && rows.all (fun r => r.2.all (elemOk G))
  | .panics => true

/-- a kind `parse_operand` can be called with: it has an arm, the arm is not `panic!()`, its elements are decodable -/
def kindOk (G : Tables) (k : Nat) : Bool :=
  match G.kindActs[k]? with
  | none => false
  | some .panics => false
  | some a => actOk G a

/-! ### `Safe` and `Prog` through `andThen`, tests and functions of the value

With these rules the proof for a routine is a term of the routine's shape. -/

section Rules
variable {α β : Type} {d : DState} {r : PRes IErr α × DState} {k : α → DState → PRes IErr β × DState}

theorem Safe.ok {a : α} : Safe d ((.ok a, d) : PRes IErr α × DState) := ⟨Frame.refl d, by simp⟩

theorem Safe.err {e : IErr} : Safe d ((.err e, d) : PRes IErr α × DState) := ⟨Frame.refl d, by simp⟩

/-- frames compose, a panic would be a panic of one of the two parts, and what the second part guarantees of its value
holds of the whole -/
theorem Safe.andThen_post (h : Safe d r) (Q : β → DState → Prop)
    (hk : ∀ a d1, r = (.ok a, d1) → Frame d d1 → Safe d1 (k a d1) ∧ ∀ b, (k a d1).1 = .ok b → Q b (k a d1).2) :
    Safe d (andThen r k) ∧ ∀ b, (andThen r k).1 = .ok b → Q b (andThen r k).2 := by
  rcases r with ⟨a | e | s, d1⟩
  · obtain ⟨⟨f2, np⟩, hq⟩ := hk a d1 rfl h.1
    exact ⟨⟨h.1.trans f2, np⟩, hq⟩
  · exact ⟨⟨h.1, by simp [Model.andThen]⟩, fun b hb => by cases hb⟩
  · exact absurd rfl (h.2 s)

theorem Safe.andThen (h : Safe d r) (hk : ∀ a d1, r = (.ok a, d1) → Frame d d1 → Safe d1 (k a d1)) :
    Safe d (andThen r k) :=
  (h.andThen_post (fun _ _ => True) fun a d1 hr f => ⟨hk a d1 hr f, fun _ _ => trivial⟩).1

theorem Safe.map {f : α → β} (h : Safe d r) : Safe d (Model.andThen r fun a d1 => (.ok (f a), d1)) :=
  h.andThen fun _ _ _ _ => Safe.ok

theorem Safe.ite {c : Prop} [Decidable c] {r' : PRes IErr α × DState} (h : Safe d r) (h' : Safe d r') :
    Safe d (if c then r else r') := by
  split <;> assumption

/-- a first part that consumes a word, followed by anything safe: the whole consumes a word (the post-condition
`d.offset + 4 ≤ ·.offset` of the rule above, kept by the frame of the second part), and what the second part guarantees of its
value holds of the whole -/
theorem SafeProg.andThen_post (h : SafeProg d r) (Q : β → Prop)
    (hk : ∀ a d1, r = (.ok a, d1) → Frame d d1 → Safe d1 (k a d1) ∧ ∀ b, (k a d1).1 = .ok b → Q b) :
    SafeTo d (Model.andThen r k) Q :=
  let ⟨sf, hq⟩ := h.1.andThen_post (fun b d2 => d.offset + 4 ≤ d2.offset ∧ Q b) fun a d1 hr f =>
    let ⟨sk, qk⟩ := hk a d1 hr f
    ⟨sk, fun b hb => ⟨Nat.le_trans ((hr ▸ h.2 : Prog d (.ok a, d1)) a rfl) sk.1.mono, qk b hb⟩⟩
  ⟨sf, fun b hb => (hq b hb).1, fun b hb => (hq b hb).2⟩

theorem SafeProg.andThen (h : SafeProg d r) (hk : ∀ a d1, Frame d d1 → Safe d1 (k a d1)) : SafeProg d (Model.andThen r k) :=
  let ⟨sf, pr, _⟩ := h.andThen_post (fun _ => True) fun a d1 _ f => ⟨hk a d1 f, fun _ _ => trivial⟩
  ⟨sf, pr⟩

/-- a part that is safe and consumes a word, then a pure function of its value: `Safe` and `Prog` carry over, and what
holds of `f` of every value the part can deliver holds of the result -/
theorem SafeProg.map_post {f : α → β} {Q : β → Prop} (h : SafeProg d r) (hQ : ∀ a, r.1 = .ok a → Q (f a)) :
    SafeTo d (Model.andThen r fun a d1 => (.ok (f a), d1)) Q :=
  h.andThen_post Q fun a d1 hr _ => ⟨Safe.ok, fun b hb => by cases hb; exact hQ a (by rw [hr])⟩

theorem SafeProg.map {f : α → β} (h : SafeProg d r) : SafeProg d (Model.andThen r fun a d1 => (.ok (f a), d1)) :=
  h.andThen fun _ _ _ => Safe.ok

/-- a test: each branch is proved knowing how the test came out -/
theorem SafeProg.ite {c : Prop} [Decidable c] {r' : PRes IErr α × DState} (h : c → SafeProg d r) (h' : ¬c → SafeProg d r') :
    SafeProg d (if c then r else r') := by
  split
  · exact h ‹_›
  · exact h' ‹_›

end Rules

/-- what C11 says of a decoder request, as `Safe` and `Prog` of the request seen from the parser -/
theorem req_safe {α : Type} {d : DState} {r : Res α × DState} (hf : Frame d r.2) (hnp : ∀ s, r.1 ≠ .panic s)
    (hp : ∀ v, r.1 = .ok v → d.offset + 4 ≤ r.2.offset) : SafeProg d (req r) := by
  rcases r with ⟨v | e | s, d1⟩
  · exact ⟨⟨hf, by simp [req, liftD]⟩, fun _ _ => hp v rfl⟩
  · exact ⟨⟨hf, by simp [req, liftD]⟩, fun _ h => by cases h⟩
  · exact absurd rfl (hnp s)

theorem word_safe {d : DState} : SafeProg d (req (word d)) :=
  req_safe (word_frame d) (fun s h => word_never_panics d s _ (Prod.ext h rfl))
    fun _ h => Nat.le_of_eq (word_ok (Prod.ext h rfl)).2.offset.symm

theorem typedReq_safe {f : Nat → Option Nat} {site : String} {ev : Nat} {d : DState} :
    SafeProg d (req (typedReq f site ev d)) := by
  obtain ⟨hf, np, ok⟩ := typedReq_spec f site ev d
  exact req_safe hf np fun v h => by rw [(ok v h).2]; exact Nat.le_refl _

theorem string_safe {d : DState} (hi : Inv d) (hs : Small d) : SafeProg d (req (DState.string d)) :=
  req_safe (string_frame d) (string_spec d hi hs).1 fun v h => by
    obtain ⟨nul, _, _, _, a⟩ := string_ok (Prod.ext h rfl)
    rw [a.offset]; exact Nat.add_le_add_left (Nat.le_mul_of_pos_right 4 (Nat.succ_pos _)) _

/-! ### decoder requests lifted to operands -/

theorem decodeElem_safe (G : Tables) (e : Elem) (d : DState) (hi : Inv d) (hs : Small d) (he : elemOk G e = true) :
    Safe d (decodeElem G e d) ∧ Prog d (decodeElem G e d) := by
  simp only [elemOk, Bool.and_eq_true, Bool.or_eq_true, bne_iff_ne, ne_eq, decide_eq_true_eq] at he
  rw [decodeElem_eq]
  refine SafeProg.ite (fun h0 => ?_) fun _ => .ite (fun h1 => ?_) fun _ =>
    .ite (fun _ => word_safe.map) fun _ => (string_safe hi hs).map
  · rw [List.getElem?_eq_getElem (he.1.resolve_left (· (beq_iff_eq.1 h0)))]
    exact typedReq_safe.map
  · rw [List.getElem?_eq_getElem (he.2.resolve_left (· (beq_iff_eq.1 h1)))]
    exact typedReq_safe.map

theorem decodeElems_safe (G : Tables) : ∀ (es : List Elem) (d : DState), Inv d → Small d → es.all (elemOk G) = true →
    Safe d (decodeElems G es d)
  | [], d, _, _, _ => Safe.ok
  | e :: es, d, hi, hs, hall => by
    simp only [List.all_cons, Bool.and_eq_true] at hall
    rw [decodeElems_cons]
    exact (decodeElem_safe G e d hi hs hall.1).1.andThen fun o d1 _ f =>
      (decodeElems_safe G es d1 (f.inv hi) (hs.of_bytes f.bytes) hall.2).map

theorem maskSel_ok {G : Tables} {rows : List (Nat × List Elem)} (h : rows.all (fun r => r.2.all (elemOk G)) = true)
    (v : Nat) : (maskSel rows v).all (elemOk G) = true := by
  rw [List.all_eq_true] at h ⊢
  intro x hx
  obtain ⟨r, hr, hxr⟩ := List.mem_flatMap.1 hx
  exact List.all_eq_true.1 (h r (List.mem_filter.1 hr).1) x hxr

theorem enumSel_ok {G : Tables} {rows : List (Nat × List Elem)} (h : rows.all (fun r => r.2.all (elemOk G)) = true)
    (v : Nat) : (enumSel rows v).all (elemOk G) = true := by
  unfold enumSel
  cases hf : rows.find? (fun r => r.1 == v) with
  | none => rfl
  | some r => exact List.all_eq_true.1 h r (List.mem_of_find?_eq_some hf)

theorem withParams_safe {G : Tables} {e : Elem} (sel : Nat → List Elem) {d : DState} (hi : Inv d) (hs : Small d)
    (he : elemOk G e = true) (hsel : ∀ v, (sel v).all (elemOk G) = true) :
    SafeTo d (withParams G e sel d) (· ≠ []) :=
  SafeProg.andThen_post (decodeElem_safe G e d hi hs he) (· ≠ []) fun v d1 _ f =>
    (decodeElems_safe G _ d1 (f.inv hi) (hs.of_bytes f.bytes) (hsel v.num)).andThen_post (fun os _ => os ≠ [])
      fun os d2 _ _ => ⟨Safe.ok, fun _ h => by cases h; exact List.cons_ne_nil _ _⟩

/-- `parse_operand(kind)` for a kind that has a non-panicking arm: safe, and a success yields at least one operand
and consumes at least one word -/
theorem parseOperand_safe (G : Tables) (k : Nat) (d : DState) (hi : Inv d) (hs : Small d) (hk : kindOk G k = true) :
    SafeTo d (parseOperand G k d) (· ≠ []) := by
  unfold kindOk at hk
  rw [parseOperand_eq]
  rcases hact : G.kindActs[k]? with _ | es | ⟨e, rows⟩ | ⟨e, rows⟩ | _ <;> rw [hact] at hk <;> try cases hk
  · -- a non-empty element list is its first element with the others for parameters
    rcases es with _ | ⟨e, es⟩
    · cases hk
    simp only [actOk, List.isEmpty_cons, Bool.not_false, Bool.true_and, List.all_cons, Bool.and_eq_true] at hk
    dsimp only
    rw [decodeElems_cons]
    exact withParams_safe (fun _ => es) hi hs hk.1 fun _ => hk.2
  · simp only [actOk, Bool.and_eq_true] at hk
    exact withParams_safe _ hi hs hk.1 (maskSel_ok hk.2)
  · simp only [actOk, Bool.and_eq_true] at hk
    exact withParams_safe _ hi hs hk.1 (enumSel_ok hk.2)

/-! ### literals -/

theorem parseLiteral_safe {G : Tables} {τ : Tracker} {idx t : Nat} {d : DState} : SafeProg d (parseLiteral G τ idx t d) := by
  rcases C10.literal_cases G τ idx t with ⟨_, h, _⟩ | ⟨_, h, _⟩ | ⟨_, h, _⟩ <;> rw [h]
  · rw [litOne_eq]; exact word_safe.map
  · rw [litTwo_eq]; exact word_safe.andThen fun _ d1 _ => word_safe.1.map
  · exact ⟨Safe.err, fun _ h => nomatch h⟩

/-! ### OpSpecConstantOp -/

/-- a success that consumed a word has brought the limit down -/
theorem limit_decreases {α : Type} {d d1 : DState} {r : PRes IErr α × DState} {a : α} {l : Nat} (f : Frame d d1)
    (hl : d.limit = some l) (pr : Prog d r) (hr : r = (.ok a, d1)) : ∃ l1, d1.limit = some l1 ∧ l1 < l := by
  obtain ⟨l1, e1, b1⟩ := f.limited l hl
  subst hr
  have : d.offset + 4 ≤ d1.offset := pr a rfl
  exact ⟨l1, e1, by omega⟩

theorem parseMany_safe (G : Tables) (k : Nat) (hk : kindOk G k = true) (fuel : Nat) : ∀ (d : DState) (l : Nat),
    Inv d → Small d → d.limit = some l → l < fuel → Safe d (parseMany G k fuel d) := by
  induction fuel with
  | zero => exact fun _ _ _ _ _ h => absurd h (Nat.not_lt_zero _)
  | succ fuel ih =>
    intro d l hi hs hl hlt
    obtain ⟨sf, pr, _⟩ := parseOperand_safe G k d hi hs hk
    rw [parseMany_succ]
    refine Safe.ite Safe.ok (sf.andThen fun os d1 hr f1 => ?_)
    obtain ⟨l1, hl1, lt1⟩ := limit_decreases f1 hl pr hr
    exact (ih d1 l1 (f1.inv hi) (hs.of_bytes f1.bytes) hl1 (Nat.lt_of_lt_of_le lt1 (Nat.le_of_lt_succ hlt))).map

/-- kinds of a nested instruction: result kinds are skipped, every other kind must be parsable -/
def nestedOk (G : Tables) (ops : List (Nat × Nat)) : Bool :=
  ops.all (fun o => o.1 == G.kIdResultType || o.1 == G.kIdResult || kindOk G o.1)

theorem nestedHere_safe (G : Tables) (k q : Nat) (hk : kindOk G k = true) (d : DState) (l : Nat) (hi : Inv d) (hs : Small d)
    (hl : d.limit = some l) : Safe d (nestedHere G k q d) :=
  have h := (parseOperand_safe G k d hi hs hk).1
  Safe.ite h (Safe.ite (Safe.ite Safe.ok h) (parseMany_safe G k hk _ d l hi hs hl (hl ▸ Nat.lt_succ_self l)))

theorem parseNested_safe (G : Tables) (ops : List (Nat × Nat)) : ∀ (d : DState) (l : Nat),
    nestedOk G ops = true → Inv d → Small d → d.limit = some l → Safe d (parseNested G ops d) := by
  induction ops with
  | nil => exact fun _ _ _ _ _ _ => Safe.ok
  | cons o rest ih =>
    obtain ⟨k, q⟩ := o
    intro d l hok hi hs hl
    simp only [nestedOk, List.all_cons, Bool.and_eq_true] at hok
    rw [parseNested_cons]
    cases hres : k == G.kIdResultType || k == G.kIdResult
    case true => exact ih d l hok.2 hi hs hl
    rw [hres, Bool.false_or] at hok
    refine (nestedHere_safe G k q hok.1 d l hi hs hl).andThen fun os d1 _ f1 => ?_
    obtain ⟨l1, hl1, _⟩ := f1.limited l hl
    exact (ih d1 l1 hok.2 (f1.inv hi) (hs.of_bytes f1.bytes) hl1).map

/-- every kind used by a grammar entry is a result kind, a context dependent kind, or parsable by `parse_operand` -/
def coreKindsOk (G : Tables) : Bool :=
  G.core.all (fun e => e.ops.all (fun o => o.1 == G.kIdResultType || o.1 == G.kIdResult || isCtxKind G o.1 || kindOk G o.1))

theorem nestedOk_of_core {G : Tables} (hc : coreKindsOk G = true) {e : Entry} (hlook : lookupOpcode G.core e.opcode = some e)
    (hctx : (e.ops.any fun o => isCtxKind G o.1) = false) : nestedOk G e.ops = true := by
  simp only [coreKindsOk, List.all_eq_true] at hc
  simp only [nestedOk, List.all_eq_true]
  intro o ho
  have h2 : isCtxKind G o.1 = false := by simpa using List.any_eq_false.1 hctx o ho
  simpa [h2] using hc e (lookupOpcode_some _ _ _ hlook).1 o ho

theorem specOpEntry_nestedOk (G : Tables) (hc : coreKindsOk G = true) (number : Nat) (e : Entry)
    (h : specOpEntry G number = some e) : nestedOk G e.ops = true := by
  obtain ⟨rfl, _, hl, hctx⟩ := Spec.specOpEntry_some.1 h
  exact nestedOk_of_core hc hl hctx

theorem parseSpecConstantOp_safe (G : Tables) (hc : coreKindsOk G = true) (idx : Nat) (d : DState) (l : Nat)
    (hi : Inv d) (hs : Small d) (hl : d.limit = some l) :
    SafeTo d (parseSpecConstantOp G idx d) (· ≠ []) := by
  rw [parseSpecConstantOp_eq]
  refine word_safe.andThen_post (· ≠ []) fun number d1 _ f => ?_
  obtain ⟨l1, hl1, _⟩ := f.limited l hl
  cases he : specOpEntry G number with
  | none => exact ⟨Safe.err, fun _ h => by cases h⟩
  | some e =>
    exact (parseNested_safe G e.ops d1 l1 (specOpEntry_nestedOk G hc number e he) (f.inv hi) (hs.of_bytes f.bytes) hl1).andThen_post
      (fun os _ => os ≠ []) fun os d2 _ _ => ⟨Safe.ok, fun _ h => by cases h; exact List.cons_ne_nil _ _⟩

/-! ### abstract interpretation of `parse_operands` over a grammar entry -/

inductive Hd where
  | empty | idref | other
deriving DecidableEq, Repr

/-- abstract accumulator: result type read? what is known about the first collected operand? lower bound on their number -/
structure Abs where
  rt : Bool
  hd : Hd
  n : Nat
deriving DecidableEq, Repr

def headIdRef (G : Tables) : List Operand → Bool
  | .w v _ :: _ => v == G.vIdRef
  | _ => false

/-- concretisation -/
def R (G : Tables) (s : Abs) (a : Acc) : Prop :=
  (s.rt = true → a.rtype.isSome = true) ∧ (s.hd = .idref → headIdRef G a.ops = true) ∧
  (s.hd = .empty → a.ops = []) ∧ s.n ≤ a.ops.length

/-- what the first operand of a kind looks like: `IdRef` iff its first element is the raw-word `IdRef` element -/
def kindHead (G : Tables) (k : Nat) : Hd :=
  match G.kindActs[k]? with
  | some (.elems (e :: _)) => if e.variant == G.vIdRef && e.dec == 2 then .idref else .other
  | _ => .other

def bump (h new : Hd) : Hd := if h = .empty then new else h

/-- one `match loperand.kind` arm, abstractly; `none` = an `assert!`/`expect`/index/`panic!()` could fire -/
def absStep (G : Tables) (opcode k : Nat) (s : Abs) : Option Abs :=
  if k == G.kIdResultType then some { s with rt := true }
  else if k == G.kIdResult then some s
  else if k == G.kCtxNumber then
    if (opcode == G.opConstant || opcode == G.opSpecConstant) && s.rt then some { s with hd := bump s.hd .other, n := s.n + 1 } else none
  else if k == G.kPairLitId then
    if opcode == G.opSwitch && decide (s.hd = .idref) then some { s with n := s.n + 2 } else none
  else if k == G.kSpecOp then some { s with hd := bump s.hd .other, n := s.n + 1 }
  else if kindOk G k then some { s with hd := bump s.hd (kindHead G k), n := s.n + 1 }
  else none

theorem headIdRef_cons {G : Tables} {os : List Operand} (h : headIdRef G os = true) :
    ∃ sel tl, os = .w G.vIdRef sel :: tl := by
  rcases os with _ | ⟨⟨v, sel⟩ | _ | _, tl⟩ <;> try cases h
  exact ⟨sel, tl, by rw [beq_iff_eq.1 h]⟩

/-- appending operands of which `new` says what their head is: nothing, or that it is an `IdRef` -/
theorem R_append {G : Tables} {s : Abs} {a : Acc} {os : List Operand} {new : Hd} {m : Nat} (hR : R G s a)
    (hnew : new = .other ∨ new = .idref ∧ headIdRef G os = true) (hm : m ≤ os.length) :
    R G { s with hd := bump s.hd new, n := s.n + m } { a with ops := a.ops ++ os } := by
  obtain ⟨h1, h2, h3, h4⟩ := hR
  have hlen : s.n + m ≤ (a.ops ++ os).length := List.length_append ▸ Nat.add_le_add h4 hm
  unfold bump
  by_cases he : s.hd = .empty
  · -- the first operands: their head is what `new` says
    rw [h3 he] at hlen ⊢
    rw [if_pos he]
    rcases hnew with rfl | ⟨rfl, hh⟩
    · exact ⟨h1, (fun h => nomatch h), (fun h => nomatch h), hlen⟩
    · exact ⟨h1, fun _ => hh, (fun h => nomatch h), hlen⟩
  · rw [if_neg he]
    refine ⟨h1, fun h => ?_, fun h => absurd h he, hlen⟩
    obtain ⟨sel, tl, e⟩ := headIdRef_cons (h2 h)
    rw [e]
    exact beq_self_eq_true _

/-- the abstract head of a kind is right: where it is `IdRef`, a successful `parse_operand` starts with an `IdRef` operand -/
theorem parseOperand_head {G : Tables} {k : Nat} {d : DState} {os : List Operand} (hok : (parseOperand G k d).1 = .ok os) :
    kindHead G k = .other ∨ kindHead G k = .idref ∧ headIdRef G os = true := by
  fun_cases kindHead G k <;> first | exact .inl rfl | refine .inr ⟨rfl, ?_⟩
  rename_i e es hact hc
  simp only [Bool.and_eq_true, beq_iff_eq] at hc
  rw [parseOperand_eq, hact] at hok
  dsimp only at hok
  rw [decodeElems_cons, decodeElem_eq, if_neg (by rw [hc.2]; decide), if_neg (by rw [hc.2]; decide),
    if_pos (by rw [hc.2]; rfl)] at hok
  obtain ⟨o, d1, h1, h⟩ := andThen_eq_ok.1 (Prod.ext hok rfl : _ = (PRes.ok os, _))
  obtain ⟨v, _, _, h1⟩ := andThen_eq_ok.1 h1
  obtain ⟨os', d2, _, h⟩ := andThen_eq_ok.1 h
  cases h1; cases h
  exact hc.1 ▸ beq_self_eq_true _

section One
variable (G : Tables) (hc : coreKindsOk G = true) (τ : Tracker) (idx opcode : Nat)
include hc

/-- soundness of one abstract step -/
theorem parseOne_safe (k : Nat) (a : Acc) (d : DState) (l : Nat) (s s1 : Abs) (hR : R G s a)
    (hs1 : absStep G opcode k s = some s1) (hi : Inv d) (hs : Small d) (hl : d.limit = some l) :
    Safe d (parseOne G τ idx opcode k a d) ∧ Prog d (parseOne G τ idx opcode k a d) ∧
    (∀ a1, (parseOne G τ idx opcode k a d).1 = .ok a1 → R G s1 a1) := by
  obtain ⟨rt, rid, ops⟩ := a
  unfold absStep at hs1
  rw [ite_oneKind] at hs1
  show SafeTo d (parseOne G τ idx opcode k _ d) (R G s1)
  rw [parseOne_eq]
  revert hs1
  cases oneKind G k <;> intro hs1
  · cases hs1
    exact word_safe.map_post fun v _ => ⟨fun _ => rfl, hR.2⟩
  · cases hs1
    exact word_safe.map_post fun v _ => hR
  · obtain ⟨hcond, ⟨⟩⟩ := Option.ite_none_right_eq_some.1 hs1
    rw [Bool.and_eq_true] at hcond
    obtain ⟨t, rfl⟩ := Option.isSome_iff_exists.1 (hR.1 hcond.2)
    rw [hcond.1]
    exact parseLiteral_safe.map_post fun o _ => R_append hR (.inl rfl) (Nat.le_refl 1)
  · obtain ⟨hcond, ⟨⟩⟩ := Option.ite_none_right_eq_some.1 hs1
    rw [Bool.and_eq_true, decide_eq_true_eq] at hcond
    obtain ⟨sel, tl, rfl⟩ := headIdRef_cons (hR.2.1 hcond.2)
    dsimp only
    rw [bne_eq_false_iff_eq.2 (beq_iff_eq.1 hcond.1), bne_self_eq_false]
    refine parseLiteral_safe.andThen_post _ fun lit d1 _ _ =>
      word_safe.1.andThen_post (fun a1 _ => R G _ a1) fun tgt d2 _ _ => ⟨Safe.ok, fun a1 h => ?_⟩
    cases h
    -- the selector stays the first operand
    exact ⟨hR.1, fun _ => beq_self_eq_true _, (fun h => nomatch hcond.2.symm.trans h),
      List.length_append ▸ Nat.add_le_add_right hR.2.2.2 2⟩
  · cases hs1
    obtain ⟨sf, pr, ne⟩ := parseSpecConstantOp_safe G hc idx d l hi hs hl
    exact SafeProg.map_post ⟨sf, pr⟩ fun os h => R_append hR (.inl rfl) (List.length_pos_iff.2 (ne os h))
  · obtain ⟨hkind, ⟨⟩⟩ := Option.ite_none_right_eq_some.1 hs1
    obtain ⟨sf, pr, ne⟩ := parseOperand_safe G k d hi hs hkind
    exact SafeProg.map_post ⟨sf, pr⟩ fun os h => R_append hR (parseOperand_head h) (List.length_pos_iff.2 (ne os h))

end One

/-! ### the operand loop -/

/-- what is known after "maybe one more step" -/
def weaken (s s1 : Abs) : Abs :=
  { rt := s.rt && s1.rt, hd := if s.hd = s1.hd then s.hd else .other, n := min s.n s1.n }

theorem R_weaken_left (G : Tables) (s s1 : Abs) (a : Acc) (h : R G s a) : R G (weaken s s1) a := by
  -- where the two states disagree on the head, the weakened state claims nothing
  have hd : ∀ x, x ≠ .other → (weaken s s1).hd = x → s.hd = x := fun x hx e => by
    unfold weaken at e
    split at e
    · exact e
    · exact absurd e.symm hx
  exact ⟨fun hb => h.1 (Bool.and_eq_true _ _ ▸ hb : _ ∧ _).1, fun hb => h.2.1 (hd _ (fun h => nomatch h) hb),
    fun hb => h.2.2.1 (hd _ (fun h => nomatch h) hb), Nat.le_trans (Nat.min_le_left _ _) h.2.2.2⟩

theorem weaken_comm (s s1 : Abs) : weaken s s1 = weaken s1 s := by
  unfold weaken
  rw [Bool.and_comm, Nat.min_comm]
  by_cases h : s.hd = s1.hd
  · rw [if_pos h, if_pos h.symm, h]
  · rw [if_neg h, if_neg (Ne.symm h)]

theorem R_weaken_right (G : Tables) (s s1 : Abs) (a : Acc) (h : R G s1 a) : R G (weaken s s1) a :=
  weaken_comm s1 s ▸ R_weaken_left G s1 s a h

/-- abstract `parse_operands`: `some n` = no panic site is reachable and every successful exit has collected at least
`n` operands. An optional or variadic operand is entered from the weakened state, which must be stable. -/
def absLoop (G : Tables) (opcode : Nat) : List (Nat × Nat) → Abs → Option Nat
  | [], s => some s.n
  | (k, q) :: rest, s =>
    match absStep G opcode k s with
    | none => none
    | some s1 =>
      if q == 0 then absLoop G opcode rest s1
      else
        match absStep G opcode k (weaken s s1) with
        | none => none
        | some w1 =>
          if weaken (weaken s s1) w1 = weaken s s1 then (absLoop G opcode rest (weaken s s1)).map (fun n => min n (weaken s s1).n)
          else none

/-- What a verdict `n` on `(k, q) :: rest` from `s` promises the concrete loop: the step is accepted; where the operand may be
absent, `n` is already reached in `s`; and whatever accumulator the step delivers is described by a state from which the
operands the loop goes on with are accepted, with a verdict of at least `n`. For an optional or variadic operand that state is
the weakened one, and it is stable, so a variadic operand is re-entered from it with the same verdict. -/
theorem absLoop_next {G : Tables} {opcode k q : Nat} {rest : List (Nat × Nat)} {s : Abs} {n : Nat}
    (h : absLoop G opcode ((k, q) :: rest) s = some n) :
    ∃ s1, absStep G opcode k s = some s1 ∧ ((q == 0) = false → n ≤ s.n) ∧
      ∃ s', (∀ a, R G s1 a → R G s' a) ∧
        ∃ n', absLoop G opcode (if q == 2 then (k, q) :: rest else rest) s' = some n' ∧ n ≤ n' := by
  generalize hl : (k, q) :: rest = ops at h
  revert h
  fun_cases absLoop G opcode ops s <;> intro h <;> cases hl <;> first | cases h | skip
  · -- a required operand: the loop goes on from `s1` itself
    rename_i s1 hs1 hq
    exact ⟨s1, hs1, (fun h0 => nomatch hq.symm.trans h0), s1, fun _ hR => hR, n,
      by rw [if_neg (by rw [beq_iff_eq.1 hq]; decide)]; exact h, Nat.le_refl _⟩
  · -- an optional or variadic one: from the weakened state, which `hstab` says one more step leaves as it is
    rename_i s1 w1 hstab hs1 hw hq
    obtain ⟨m, hm, rfl⟩ := Option.map_eq_some_iff.1 h
    refine ⟨s1, hs1, fun _ => Nat.le_trans (Nat.min_le_right _ _) (Nat.min_le_left _ _), _, R_weaken_right G s s1, ?_⟩
    split
    · exact ⟨_, by simp only [absLoop, hw, hq, Bool.false_eq_true, if_false, hstab, if_true, hm, Option.map_some], Nat.le_refl _⟩
    · exact ⟨m, hm, Nat.min_le_left _ _⟩

section Loop
variable (G : Tables) (hc : coreKindsOk G = true) (τ : Tracker) (idx opcode : Nat)
include hc

theorem loop_safe : ∀ (fuel : Nat) (ops : List (Nat × Nat)) (a : Acc) (d : DState) (l : Nat) (s : Abs) (n : Nat),
    R G s a → absLoop G opcode ops s = some n → Inv d → Small d → d.limit = some l → ops.length + l < fuel →
    Safe d (parseOperandsLoop G τ idx opcode fuel ops a d) ∧
    (∀ a', (parseOperandsLoop G τ idx opcode fuel ops a d).1 = .ok a' → n ≤ a'.ops.length) := by
  intro fuel
  induction fuel with
  | zero => exact fun _ _ _ _ _ _ _ _ _ _ _ h => absurd h (Nat.not_lt_zero _)
  | succ fuel ih =>
    intro ops a d l s n hR habs hi hs hl hf
    rcases ops with _ | ⟨⟨k, q⟩, rest⟩
    · cases habs
      exact ⟨Safe.ok, fun a' h => by cases h; exact hR.2.2.2⟩
    obtain ⟨s1, hs1, hopt, s', hR', n', hnext, hle⟩ := absLoop_next habs
    rw [parseOperandsLoop_cons]
    cases hlr : d.limitReached
    · obtain ⟨sf, pr1, hR1⟩ := parseOne_safe G hc τ idx opcode k a d l s s1 hR hs1 hi hs hl
      refine sf.andThen_post (fun (a' : Acc) _ => n ≤ a'.ops.length) fun a1 d1 hr f1 => ?_
      obtain ⟨l1, hl1, lt1⟩ := limit_decreases f1 hl pr1 hr
      have hlen : (if q == 2 then (k, q) :: rest else rest).length ≤ rest.length + 1 := by
        cases q == 2
        · exact Nat.le_succ _
        · exact Nat.le_refl _
      obtain ⟨sf2, hn2⟩ := ih _ a1 d1 l1 s' n' (hR' a1 (hR1 a1 (by rw [hr]))) hnext (f1.inv hi) (hs.of_bytes f1.bytes) hl1
        (Nat.lt_of_lt_of_le (Nat.add_lt_add_of_le_of_lt hlen lt1) (Nat.le_of_lt_succ hf))
      exact ⟨sf2, fun a' h => Nat.le_trans hle (hn2 a' h)⟩
    -- the limit is exhausted: a required operand is missing, anything else ends the loop with what was collected
    cases hq : q == 0
    · exact ⟨Safe.ok, fun a' h => by cases h; exact Nat.le_trans (hopt hq) hR.2.2.2⟩
    · exact ⟨Safe.err, fun _ h => nomatch h⟩

end Loop

/-! ### instructions, the parse loop, the whole parse -/

/-- an entry is safe: no panic site is reachable while parsing its operands, and if it is `OpTypeInt` / `OpTypeFloat`
the type tracker finds the operands it indexes -/
def entrySafe (G : Tables) (e : Entry) : Bool :=
  match absLoop G e.opcode e.ops ⟨false, .empty, 0⟩ with
  | none => false
  | some n => (e.opcode != G.opTypeInt || decide (2 ≤ n)) && (e.opcode != G.opTypeFloat || decide (1 ≤ n))

/-- **the table check of C04**, decided by the kernel on the tables regenerated from the working tree -/
def tablesSafe (G : Tables) : Bool := coreKindsOk G && G.core.all (entrySafe G)

theorem tablesSafe.core {G : Tables} (h : tablesSafe G = true) : coreKindsOk G = true := (Bool.and_eq_true _ _ ▸ h).1

theorem track_some (T : TTables) (τ : Tracker) (i : Inst)
    (h2 : i.opcode = T.opTypeInt → 2 ≤ i.operands.length) (h1 : i.opcode = T.opTypeFloat → 1 ≤ i.operands.length) :
    (Tracker.track T τ i).isSome = true := by
  rcases C10.track_cases T τ i with h' | ⟨_, _, _, h'⟩ | ⟨_, ⟨ho, hlt⟩ | ⟨ho, hlt⟩⟩
  · rw [h']; rfl
  · rw [h']; rfl
  · exact absurd (h2 ho) (Nat.not_le.2 hlt)
  · exact absurd (h1 ho) (Nat.not_le.2 hlt)

theorem parseHeader_frame (G : Tables) (d : DState) : Frame d (parseHeader G d).2 ∧ ∀ s, (parseHeader G d).1 ≠ .panic s := by
  obtain ⟨f, np, _⟩ := words_spec 5 d
  rcases parseHeader_cases G d with ⟨_, _, hw, h⟩ | ⟨_, _, _, hw, _, _, h⟩ | ⟨_, _, hw, _, h⟩ | ⟨s, _, hw, _⟩ <;>
    rw [hw] at f np
  · rw [h]; exact ⟨f, fun _ h => nomatch h⟩
  · rw [h]; exact ⟨f, fun _ h => nomatch h⟩
  · rw [h]; exact ⟨f, fun _ h => nomatch h⟩
  · exact absurd rfl (np s)

/-- what `entrySafe` promises of an entry: the abstract run accepts it, with the operands the type tracker indexes -/
theorem entrySafe_some {G : Tables} {e : Entry} (h : entrySafe G e = true) :
    ∃ n, absLoop G e.opcode e.ops ⟨false, .empty, 0⟩ = some n ∧
      (e.opcode = G.opTypeInt → 2 ≤ n) ∧ (e.opcode = G.opTypeFloat → 1 ≤ n) := by
  revert h
  fun_cases entrySafe G e <;> intro h
  · cases h
  · simp only [Bool.and_eq_true, Bool.or_eq_true, bne_iff_ne, ne_eq, decide_eq_true_eq] at h
    exact ⟨_, ‹_›, fun hop => h.1.resolve_left (· hop), fun hop => h.2.resolve_left (· hop)⟩

/-- what one `parse_inst` call from `d` promises of its result `r`: the conclusion of `parseInst_safe`, with the result
named once, so that the case analysis there runs over one copy of the routine -/
def InstSafe (G : Tables) (τ : Tracker) (d : DState) (r : PRes IErr Inst × DState) : Prop :=
  (∀ s, r.1 ≠ .panic s) ∧ r.2.bytes = d.bytes ∧ Inv r.2 ∧
  ∀ i, r.1 = .ok i → d.offset + 4 ≤ r.2.offset ∧ r.2.limit = none ∧ (Tracker.track G.tt τ i).isSome = true

theorem InstSafe.err {G : Tables} {τ : Tracker} {d d' : DState} {e : IErr} (hb : d'.bytes = d.bytes) (hi : Inv d') :
    InstSafe G τ d (.err e, d') :=
  ⟨(fun _ h => nomatch h), hb, hi, fun _ h => nomatch h⟩

section Inst
variable (G : Tables) (hT : tablesSafe G = true)
include hT

/-- **C04 (one instruction).** From a state inside the buffer with no limit set, `parse_inst` never panics; it leaves the
bytes alone, never moves backwards, stays inside the buffer, and on success has consumed at least one word, has cleared
the limit again, and delivers an instruction the type tracker can digest. -/
theorem parseInst_safe (τ : Tracker) (idx : Nat) (d : DState) (hi : Inv d) (hs : Small d) (hl : d.limit = none) :
    (∀ s, (parseInst G τ idx d).1 ≠ .panic s) ∧ (parseInst G τ idx d).2.bytes = d.bytes ∧
    Inv (parseInst G τ idx d).2 ∧
    (∀ i, (parseInst G τ idx d).1 = .ok i → d.offset + 4 ≤ (parseInst G τ idx d).2.offset ∧
      (parseInst G τ idx d).2.limit = none ∧ (Tracker.track G.tt τ i).isSome = true) := by
  simp only [tablesSafe, Bool.and_eq_true, List.all_eq_true] at hT
  obtain ⟨hc, hent⟩ := hT
  show InstSafe G τ d (parseInst G τ idx d)
  rw [parseInst_eq]
  by_cases hb : d.offset + 4 ≤ d.bytes.length
  case neg => rw [word_eof hl hb]; exact .err rfl hi
  rw [word_unlimited hl hb]
  dsimp only
  generalize le32 d.bytes d.offset = w0
  cases w0 / 65536 == 0
  case true => exact .err rfl hb
  rw [if_neg Bool.false_ne_true]
  rcases hlook : lookupOpcode G.core (w0 % 65536) with _ | e
  · exact .err rfl hb
  dsimp only
  obtain ⟨n, habs, h2, h1⟩ := entrySafe_some (hent e (lookupOpcode_some _ _ _ hlook).1)
  obtain ⟨⟨f, np⟩, hn⟩ := loop_safe G hc τ idx e.opcode (w0 / 65536 + e.ops.length + 1) e.ops ⟨none, none, []⟩
    (DState.setLimit (w0 / 65536 - 1) { d with offset := d.offset + 4 }) (w0 / 65536 - 1) ⟨false, .empty, 0⟩ n
    ⟨(fun h => nomatch h), (fun h => nomatch h), fun _ => rfl, Nat.le_refl 0⟩ habs hb hs rfl
    (Nat.lt_succ_of_le (Nat.add_comm _ _ ▸ Nat.add_le_add_right (Nat.sub_le _ 1) _))
  rcases hr : parseOperandsLoop G τ idx e.opcode _ e.ops _ _ with ⟨a | x | s, d3⟩ <;> rw [hr] at f np hn
  · rw [andThen_ok]
    split
    · exact .err f.bytes (f.inv hb)
    · exact ⟨(fun _ h => nomatch h), f.bytes, f.inv hb, fun i h => by
        cases h
        exact ⟨f.mono, rfl, track_some _ _ _ (fun ho => Nat.le_trans (h2 ho) (hn a rfl))
          (fun ho => Nat.le_trans (h1 ho) (hn a rfl))⟩⟩
  · exact .err f.bytes (f.inv hb)
  · exact absurd rfl (np s)

theorem parseLoop_safe (script : Nat → Action) : ∀ (fuel : Nat) (τ : Tracker) (k idx : Nat) (d : DState) (tr : List Ev),
    Inv d → Small d → d.limit = none → d.bytes.length - d.offset < fuel →
    ∀ s, (parseLoop G script fuel τ k idx d tr).result ≠ .panic s := by
  intro fuel
  induction fuel with
  | zero => exact fun _ _ _ _ _ _ _ _ h => absurd h (Nat.not_lt_zero _)
  | succ fuel ih =>
    intro τ k idx d tr hi hs hl hf
    have hsafe := parseInst_safe G hT τ (idx + 1) d hi hs hl
    rw [parseLoop_succ]
    generalize parseInst G τ (idx + 1) d = r at hsafe ⊢
    obtain ⟨np, hb, hi1, hok⟩ := hsafe
    obtain ⟨i | e | site, d1⟩ := r <;> dsimp only
    · obtain ⟨hprog, hl1, htr⟩ := hok i rfl
      obtain ⟨τ1, ht⟩ := Option.isSome_iff_exists.1 htr
      rw [ht]
      dsimp only
      split
      · simp
      · -- the offset has moved on inside the same buffer, so less of it is left
        have hi1 : d1.offset ≤ d1.bytes.length := hi1
        have hprog : d.offset + 4 ≤ d1.offset := hprog
        exact ih τ1 (k + 1) (idx + 1) d1 _ hi1 (hs.of_bytes hb) hl1 (by rw [hb] at hi1 ⊢; omega)
    · split
      · split <;> simp
      · simp
    · exact absurd rfl (np site)

/-- **C04 (parser).** For every byte string a Rust slice can hold and every consumer behaviour, `Parser::parse`
returns `Ok` or an error value: no `assert!`, `expect`, index, `panic!()` or arithmetic overflow is reachable. -/
theorem C04_parse (script : Nat → Action) (bytes : List Nat) (hs : bytes.length < 2 ^ 63) :
    ∀ s, (parse G script bytes).result ≠ .panic s := by
  have hf := parseHeader_frame G (DState.new bytes)
  fun_cases parse G script bytes with
  | case1 | case2 | case4 => exact fun _ h => nomatch h
  | case3 _ h d1 hh _ =>
    rw [hh] at hf
    have hb : d1.bytes = bytes := hf.1.bytes
    exact parseLoop_safe G hT script (bytes.length + 1) [] 2 0 d1 _ (hf.1.inv (Nat.zero_le _)) (Small.of_bytes hf.1.bytes hs)
      (hf.1.unlimited rfl) (Nat.lt_succ_of_le (hb ▸ Nat.sub_le _ _))
  | case5 _ s d1 hh =>
    rw [hh] at hf
    exact absurd rfl (hf.2 s)

end Inst

/-! ### loading: the parser driving the loader -/

theorem feed_some (L : LTables) : ∀ (evs : List Ev) (st : LState),
    (∀ site, feed L (some st) evs ≠ .error (.panic site)) ∧ feed L (some st) evs ≠ .ok none
  | [], st => by simp [feed]
  | .init :: t, st => by simp only [feed]; exact feed_some L t st
  | .header h :: t, st => by simp only [feed]; exact feed_some L t _
  | .inst i :: t, st => by
    simp only [feed]
    cases hstep : st.step L i with
    | ok st' => exact feed_some L t st'
    | error e => simp
  | .fin :: t, st => by
    simp only [feed]
    cases hfin : st.finalize with
    | ok m => exact feed_some L t st
    | error e => simp

/-- a run of the protocol shape that did not panic is replayed into the loader without a panic: the loader has its state from
the header on, and a successful run has reached `finalize`, so it has a header -/
theorem loadWith_safe (L : LTables) {script : Nat → Action} {r : Run} (good : Rspirv.Props.C14.Good script r)
    (hnp : ∀ s, r.result ≠ .panic s) (site : String) : loadWith L r ≠ .error (.panic site) := by
  obtain ⟨res, tr⟩ := r
  have hfin : res = .ok () → Ev.fin ∈ tr := good.obeys.2.2.2.2
  have key : ∀ (h : Header) (rest : List Ev), loadWith L ⟨res, .init :: .header h :: rest⟩ ≠ .error (.panic site) := by
    intro h rest
    obtain ⟨h1, h2⟩ := feed_some L rest (LState.start h)
    unfold loadWith
    simp only [feed]
    rcases hf : feed L (some (LState.start h)) rest with e | _ | st
    · exact fun hc => h1 site (by cases hc; exact hf)
    · exact absurd hf h2
    · cases res with
      | panic s => exact absurd rfl (hnp s)
      | ok u => exact fun hc => nomatch hc
      | err e => exact fun hc => nomatch hc
  cases good.shape with
  | init =>
    cases res with
    | panic s => exact absurd rfl (hnp s)
    | ok u => exact absurd (hfin rfl) (by simp)
    | err e => exact fun hc => nomatch hc
  | insts h is => exact key h _
  | fin h is => exact key h _

/-- **C04 (loader).** `load_bytes` returns a module or an error value for every byte string -/
theorem C04_load (G : Tables) (hT : tablesSafe G = true) (L : LTables) (bytes : List Nat) (hs : bytes.length < 2 ^ 63) :
    ∀ site, loadBytes G L bytes ≠ .error (.panic site) := by
  have hnp := C04_parse G hT (fun _ => .continue_) bytes hs
  rcases Rspirv.Props.C14.C14 G (fun _ => .continue_) bytes with ⟨s, hs⟩ | good
  · exact absurd hs (hnp s)
  · exact loadWith_safe L good hnp

/-- **C20 / C04 (command line tool).** `rspirv-dis` terminates normally on every file content: it prints the library's
disassembly of the loaded module followed by a newline, or the message of the loading error followed by a newline. -/
theorem C20_main (G : Tables) (hT : tablesSafe G = true) (L : LTables) (D : DisTables) (bytes : List Nat)
    (hs : bytes.length < 2 ^ 63) :
    (∃ m, loadBytes G L bytes = .ok m ∧ disMain G L D bytes = some (disasText D m ++ "\n")) ∨
    (∃ e msg, loadBytes G L bytes = .error e ∧ loadErrText G.core bytes e = some msg ∧
      disMain G L D bytes = some (msg ++ "\n")) := by
  have hnp := C04_load G hT L bytes hs
  unfold disMain
  cases hl : loadBytes G L bytes with
  | ok m => exact Or.inl ⟨m, rfl, rfl⟩
  | error e =>
    right
    cases e with
    | parse pe => exact ⟨_, _, rfl, rfl, rfl⟩
    | loader le => exact ⟨_, _, rfl, rfl, rfl⟩
    | panic site => exact absurd hl (hnp site)

end Rspirv.Props.C04
