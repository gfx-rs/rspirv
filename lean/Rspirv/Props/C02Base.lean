import Rspirv.Props.ParserSpec
import Rspirv.Model.Assemble
import Rspirv.Model.Typed
import Rspirv.Props.SpecEq
/-!
# C02, groundwork — encodings, table conditions, and what they give the recogniser

What the three families of `Props/C02TypedConv.lean` (what the recogniser returns is well typed), `Props/C02Typed.lean`
(what is well typed is read back from its encoding) and `Props/C02.lean` (what the recogniser returned it returns again
from the encoding) share: the bytes of 32-bit words, the assembler's encoding of strings and operand lists, the width of
a literal (`literal_mode`), progress of the recogniser (a kind `parse_operand` accepts yields an operand, an operand
yields a word), the conditions on the tables (`EnumsExact`, `KindsOk`, `NoRes`, `LeadOk`, `GoodTables`), and the
recogniser on the words the assembler emits for an instruction (`inst_assembled`).
-/
namespace Rspirv.Props.C02
open Rspirv Rspirv.Model Rspirv.Model.DState Rspirv.Model.Typed Rspirv.Props.C04 Rspirv.Props.ParserSpec

/-- Two `if`s on the same condition, branch by branch. Where it is applied to a definition that is an `if` only once it is
unfolded, the elaborator unfolds it when it unifies. -/
theorem ite_imp {c : Prop} [Decidable c] {A B A' B' : Prop} (hA : c → A → A') (hB : ¬c → B → B')
    (h : if c then A else B) : if c then A' else B' := by
  split <;> rename_i hc
  · exact hA hc (by rwa [if_pos hc] at h)
  · exact hB hc (by rwa [if_neg hc] at h)

/-- `ite_imp` with a conclusion `R` common to both branches beside the `if` -/
theorem ite_imp_and {c : Prop} [Decidable c] {A B A' B' R : Prop} (hA : c → A → A' ∧ R) (hB : ¬c → B → B' ∧ R)
    (h : if c then A else B) : (if c then A' else B') ∧ R := by
  split <;> rename_i hc
  · exact hA hc (by rwa [if_pos hc] at h)
  · exact hB hc (by rwa [if_neg hc] at h)

def WordsOk (ws : List Nat) : Prop := ∀ w ∈ ws, w < 4294967296

theorem WordsOk.tail {w : Nat} {t : List Nat} (h : WordsOk (w :: t)) : WordsOk t :=
  fun x hx => h x (List.mem_cons_of_mem _ hx)

theorem WordsOk.drop {ws : List Nat} (h : WordsOk ws) (n : Nat) : WordsOk (ws.drop n) :=
  fun x hx => h x (List.mem_of_mem_drop hx)

theorem WordsOk.take {ws : List Nat} (h : WordsOk ws) (n : Nat) : WordsOk (ws.take n) :=
  fun x hx => h x (List.mem_of_mem_take hx)

/-! ### words and their little-endian bytes -/

theorem wordBytes_lt (w : Nat) : ∀ b ∈ Spec.wordBytes w, b < 256 := by
  intro b hb
  simp only [Spec.wordBytes, List.mem_cons, List.mem_nil_iff, or_false] at hb
  rcases hb with rfl | rfl | rfl | rfl <;> exact Nat.mod_lt _ (by decide)

theorem flatMap_wordBytes_lt (ws : List Nat) : ∀ b ∈ ws.flatMap Spec.wordBytes, b < 256 :=
  fun b hb => let ⟨w, _, hw⟩ := List.mem_flatMap.1 hb; wordBytes_lt w b hw

theorem flatMap_wordBytes_length (ws : List Nat) : (ws.flatMap Spec.wordBytes).length = 4 * ws.length := by
  induction ws with
  | nil => rfl
  | cons w t ih => rw [List.flatMap_cons, List.length_append, ih, Nat.add_comm]; rfl

theorem flatMap_wordBytes_take (l : List Nat) (n : Nat) :
    (l.take n).flatMap Spec.wordBytes = (l.flatMap Spec.wordBytes).take (4 * n) := by
  induction l generalizing n with
  | nil => simp
  | cons w t ih =>
    cases n with
    | zero => simp
    | succ n =>
      rw [List.take_succ_cons, List.flatMap_cons, List.flatMap_cons, ih n, Nat.mul_succ, Nat.add_comm]
      exact (List.take_length_add_append (4 * n)).symm

theorem le32_wordBytes (w : Nat) (hw : w < 4294967296) (pre post : List Nat) :
    le32 (pre ++ Spec.wordBytes w ++ post) pre.length = w := by
  have g (j : Nat) : (pre ++ Spec.wordBytes w ++ post).getD (pre.length + j) 0 = (Spec.wordBytes w ++ post).getD j 0 := by
    rw [List.getD_eq_getElem?_getD, List.append_assoc, List.getElem?_append_right (Nat.le_add_right ..),
      Nat.add_sub_cancel_left, ← List.getD_eq_getElem?_getD]
  have g0 := g 0
  rw [Nat.add_zero] at g0
  rw [le32, g0, g 1, g 2, g 3]
  show w % 256 + 256 * (w / 256 % 256) + 65536 * (w / 65536 % 256) + 16777216 * (w / 16777216 % 256) = w
  omega

theorem le32_flatMap (pre ws : List Nat) (hw : WordsOk ws) (k : Nat) (hk : k < ws.length) :
    le32 (pre ++ ws.flatMap Spec.wordBytes) (pre.length + 4 * k) = ws[k] := by
  induction ws generalizing pre k with
  | nil => exact absurd hk (Nat.not_lt_zero _)
  | cons w t ih =>
    rw [List.flatMap_cons, ← List.append_assoc]
    cases k with
    | zero => exact le32_wordBytes w (hw w List.mem_cons_self) pre _
    | succ k =>
      have := ih (pre ++ Spec.wordBytes w) hw.tail k (Nat.lt_of_succ_lt_succ hk)
      rwa [List.length_append, Nat.add_assoc, Nat.add_comm _ (4 * k)] at this

/-! ### strings -/

/-- `leWord` reads four bytes, a missing one as `0`: its bytes are `r` padded with zeros -/
theorem wordBytes_leWord (r : List Nat) (hl : r.length ≤ 4) (h : ∀ b ∈ r, b < 256) :
    Spec.wordBytes (leWord r) = r ++ List.replicate (4 - r.length) 0 := by
  have g (i : Nat) : r.getD i 0 < 256 := by
    rw [List.getD_eq_getElem?_getD]
    cases hi : r[i]? with
    | none => decide
    | some x => exact h x (List.mem_of_getElem? hi)
  refine (le32_bytes _ _ _ _ (g 0) (g 1) (g 2) (g 3)).trans ?_
  -- up to four bytes by computation; five or more contradict `hl`
  rcases r with _ | ⟨_, _ | ⟨_, _ | ⟨_, _ | ⟨_, _ | ⟨_, _ | _⟩⟩⟩⟩⟩ <;> first | rfl | simp at hl

theorem leWord_lt (b : List Nat) (hb : ∀ x ∈ b, x < 256) : leWord b < 4294967296 := le32_lt b hb 0

/-- the bytes of a packed string: the string, its NUL, zero padding to the word boundary -/
theorem packStr_spec (bs : List Nat) (hb : ∀ b ∈ bs, b < 256) :
    (packStr bs).flatMap Spec.wordBytes = bs ++ 0 :: List.replicate (3 - bs.length % 4) 0 ∧
    (packStr bs).length = bs.length / 4 + 1 := by
  fun_induction packStr bs with
  | case1 b0 b1 b2 b3 t ih =>
    obtain ⟨ih1, ih2⟩ := ih fun b hb' => hb b (List.mem_append_right [b0, b1, b2, b3] hb')
    have hw : Spec.wordBytes (leWord [b0, b1, b2, b3]) = [b0, b1, b2, b3] :=
      wordBytes_leWord _ (Nat.le_refl 4) fun b hb' => hb b (List.mem_append_left t hb')
    -- four more bytes: one more word, the same remainder
    show _ = _ ++ 0 :: List.replicate (3 - (t.length + 4) % 4) 0 ∧ (packStr t).length + 1 = (t.length + 4) / 4 + 1
    rw [List.flatMap_cons, hw, ih1, ih2, Nat.add_mod_right, Nat.add_div_right _ (by decide)]
    exact ⟨rfl, rfl⟩
  | case2 r hr =>
    have hl : r.length < 4 := by
      rcases r with _ | ⟨_, _ | ⟨_, _ | ⟨_, _ | ⟨_, _⟩⟩⟩⟩ <;> first | exact (hr _ _ _ _ _ rfl).elim | simp
    rw [List.flatMap_singleton, wordBytes_leWord r (Nat.le_of_lt hl) hb, Nat.mod_eq_of_lt hl, Nat.div_eq_of_lt hl,
      ← List.replicate_succ, ← Nat.sub_add_comm (Nat.le_of_lt_succ hl)]
    exact ⟨rfl, rfl⟩

/-- `packStr_spec`, the NUL counted with the padding -/
theorem packStr_bytes : ∀ (n : Nat) (bs : List Nat), bs.length = n → (∀ b ∈ bs, b < 256) →
    (packStr bs).flatMap Spec.wordBytes = bs ++ List.replicate (4 - bs.length % 4) 0 ∧
    (packStr bs).length = bs.length / 4 + 1 :=
  fun _ bs _ hb => by
    have h := packStr_spec bs hb
    rwa [← List.replicate_succ, ← Nat.sub_add_comm (Nat.le_of_lt_succ (Nat.mod_lt _ (by decide)))] at h

theorem packStr_ok (bs : List Nat) (hb : ∀ b ∈ bs, b < 256) : WordsOk (packStr bs) := by
  fun_induction packStr bs with
  | case1 b0 b1 b2 b3 t ih =>
    exact List.forall_mem_cons.2 ⟨leWord_lt _ fun x hx => hb x (List.mem_append_left t hx),
      ih fun x hx => hb x (List.mem_append_right [b0, b1, b2, b3] hx)⟩
  | case2 r _ => exact List.forall_mem_cons.2 ⟨leWord_lt r hb, fun _ h => nomatch h⟩

theorem findIdx_zero (bs tail : List Nat) (hnz : ∀ b ∈ bs, b ≠ 0) :
    (bs ++ 0 :: tail).findIdx? (· == 0) = some bs.length := by
  rw [List.findIdx?_append, List.findIdx?_eq_none_iff.2 fun b hb => beq_false_of_ne (hnz b hb), List.findIdx?_cons]
  simp

/-! ### encodings -/

def encOps (os : List Operand) : List Nat := os.flatMap encodeOperand

theorem encOps_cons (o : Operand) (os : List Operand) : encOps (o :: os) = encodeOperand o ++ encOps os := rfl
theorem encOps_append (a b : List Operand) : encOps (a ++ b) = encOps a ++ encOps b := by simp [encOps]

theorem encOps_one (o : Operand) : encOps [o] = encodeOperand o := List.append_nil _

theorem encOps_pair (o : Operand) (v x : Nat) (r' : List Nat) : encOps [o, .w v x] ++ r' = encodeOperand o ++ x :: r' := by
  simp [encOps, encodeOperand]

/-! The two words of a 64-bit literal (`B = 2 ^ 32`): `encodeOperand` takes it apart, `Spec.lit2` puts it together. Apart and
together gives it back; together it fits two words; together and apart gives the words back. -/

theorem q_words {B v : Nat} (hv : v < B * B) : v = v / B % B * B + v % B % B := by
  rw [Nat.mod_mod, Nat.mod_eq_of_lt (Nat.div_lt_of_lt_mul hv), Nat.div_add_mod']

theorem q_lt {B : Nat} (hB : 0 < B) (lo hi : Nat) : hi % B * B + lo % B < B * B :=
  Nat.lt_of_lt_of_le (Nat.add_lt_add_left (Nat.mod_lt lo hB) _) (Nat.succ_mul .. ▸ Nat.mul_le_mul_right B (Nat.mod_lt hi hB))

theorem q_inj {B lo hi v : Nat} (hlo : lo < B) (hhi : hi < B) (e : v = hi % B * B + lo % B) : lo = v % B ∧ hi = v / B := by
  rw [e, Nat.mod_eq_of_lt hlo, Nat.mod_eq_of_lt hhi, Nat.mul_add_mod_of_lt hlo, Nat.mul_comm,
    Nat.mul_add_div (Nat.zero_lt_of_lt hlo), Nat.div_eq_of_lt hlo]
  exact ⟨rfl, rfl⟩

/-- the words the assembler emits after the first one: result type, result id, operands -/
def accWords (a : Acc) : List Nat := a.rtype.toList ++ a.rid.toList ++ encOps a.ops

theorem accWords_ops (a : Acc) (os : List Operand) : accWords { a with ops := a.ops ++ os } = accWords a ++ encOps os := by
  simp [accWords, encOps_append, List.append_assoc]

/-! ### a literal's width; progress (a kind `parse_operand` accepts yields an operand, an operand a word) -/

variable {G : Tables}

/-- the width the tracked type dictates: the recogniser and the typing judgement choose alike -/
theorem literal_mode (G : Tables) (τ : Tracker) (ty : Nat) :
    ((∀ ws, Spec.literal G τ ty ws = Spec.lit1 G ws) ∧ ∀ o, LiteralT G τ ty o ↔ Lit1T G o) ∨
    ((∀ ws, Spec.literal G τ ty ws = Spec.lit2 ws) ∧ ∀ o, LiteralT G τ ty o ↔ Lit2T o) ∨
    ((∀ ws, Spec.literal G τ ty ws = none) ∧ ∀ o, ¬ LiteralT G τ ty o) := by
  unfold Spec.literal LiteralT
  rcases τ.resolve ty with _ | ⟨w, s⟩ | ⟨w⟩ <;> dsimp only
  case none => exact .inl ⟨fun _ => rfl, fun _ => .rfl⟩
  case' some.int => generalize (w == 8 || w == 16 || w == 32) = c
  case' some.float => generalize (w == 16 || w == 32) = c
  all_goals
    cases c
    case true => exact .inl ⟨fun _ => rfl, fun _ => .rfl⟩
    cases w == 64
    · exact .inr (.inr ⟨fun _ => rfl, fun _ => id⟩)
    · exact .inr (.inl ⟨fun _ => rfl, fun _ => .rfl⟩)

theorem encodeOperand_ne (o : Operand) : encodeOperand o ≠ [] := by
  cases o with
  | w v x => simp [encodeOperand]
  | q x => simp [encodeOperand]
  | s bs => show packStr bs ≠ []; fun_induction packStr bs <;> simp

theorem encOps_ne {os : List Operand} (h : os ≠ []) : encOps os ≠ [] := by
  cases os with
  | nil => exact absurd rfl h
  | cons o t => exact fun he => encodeOperand_ne o (List.append_eq_nil_iff.1 he).1

theorem operandT_ne {k : Nat} (hk : kindOk G k = true) {os : List Operand} (h : OperandT G k os) : os ≠ [] := by
  unfold kindOk at hk
  unfold OperandT at h
  cases ha : G.kindActs[k]? with
  | none => rw [ha] at h; exact h.elim
  | some act =>
    rw [ha] at h hk
    cases act with
    | panics => exact h.elim
    | elems es =>
      cases h with
      | nil => simp [actOk] at hk
      | cons _ _ => simp
    | maskParams e rows | enumParams e rows => obtain ⟨v, ps, rfl, -⟩ := h; simp

theorem oneT_ne {τ : Tracker} {opcode k : Nat} {rt : Option Nat} {pre g : List Operand} (h : OneT G τ opcode rt pre k g)
    (hk : (isCtxKind G k || kindOk G k) = true) : g ≠ [] := by
  unfold OneT at h
  unfold isCtxKind at hk
  revert h hk
  cases k == G.kCtxNumber
  case true => rintro ⟨-, _, _, -, rfl, -⟩ -; exact List.cons_ne_nil _ _
  cases k == G.kPairLitId
  case true => rintro ⟨-, _, _, _, _, -, rfl, -⟩ -; exact List.cons_ne_nil _ _
  cases k == G.kSpecOp
  case true => rintro ⟨_, _, rfl, -⟩ -; exact List.cons_ne_nil _ _
  exact fun h hk => operandT_ne hk h

/-! ### conditions on the tables -/

theorem nestedOk_cons {k q : Nat} {ops : List (Nat × Nat)} (h : nestedOk G ((k, q) :: ops) = true) :
    nestedOk G ops = true ∧ ((k == G.kIdResultType || k == G.kIdResult) = false → kindOk G k = true) := by
  simp only [nestedOk, List.all_cons, Bool.and_eq_true] at h
  exact ⟨h.2, fun hres => by rw [hres] at h; exact h.1⟩

def KindsOk (G : Tables) (ops : List (Nat × Nat)) : Prop :=
  ∀ o ∈ ops, (o.1 == G.kIdResultType || o.1 == G.kIdResult || isCtxKind G o.1 || kindOk G o.1) = true

def NoRes (G : Tables) (ops : List (Nat × Nat)) : Prop :=
  ∀ o ∈ ops, (o.1 == G.kIdResultType) = false ∧ (o.1 == G.kIdResult) = false

/-- where result kinds may still come in the list (at most a required result type first, then a required result id),
and that the accumulator is still empty enough for their words to be *appended* to the emitted words -/
def LeadOk (G : Tables) : List (Nat × Nat) → Acc → Prop
  | [], _ => True
  | (k, q) :: rest, a =>
    if (k == G.kIdResultType) = true then
      q = 0 ∧ a.rtype = none ∧ a.rid = none ∧ a.ops = [] ∧
      (match rest with
       | [] => True
       | (k2, q2) :: rest2 => if (k2 == G.kIdResult) = true then q2 = 0 ∧ NoRes G rest2 else NoRes G rest)
    else if (k == G.kIdResult) = true then q = 0 ∧ a.rid = none ∧ a.ops = [] ∧ NoRes G rest
    else NoRes G ((k, q) :: rest)

theorem NoRes.tail {G : Tables} {o : Nat × Nat} {t : List (Nat × Nat)} (h : NoRes G (o :: t)) : NoRes G t :=
  fun x hx => h x (List.mem_cons_of_mem _ hx)

theorem leadOk_of_noRes : ∀ {ops : List (Nat × Nat)} {a : Acc}, NoRes G ops → LeadOk G ops a
  | [], _, _ => trivial
  | (k, q) :: rest, a, h => by
    have hk := h (k, q) List.mem_cons_self
    simp only [LeadOk, hk.1, hk.2, Bool.false_eq_true, if_false]
    exact h

/-- the three ways `LeadOk` holds of a non-empty list: a result type to be read into an empty accumulator, a result id
to be read into one without result id and operands, or no result kind any more -/
theorem leadOk_cons (hne : (G.kIdResult == G.kIdResultType) = false) {k q : Nat} {rest : List (Nat × Nat)} {a : Acc}
    (h : LeadOk G ((k, q) :: rest) a) :
    ((k == G.kIdResultType) = true ∧ (k == G.kIdResult) = false ∧ q = 0 ∧ a.rtype = none ∧ a.rid = none ∧ a.ops = [] ∧
      ∀ w, LeadOk G rest { a with rtype := some w }) ∨
    ((k == G.kIdResultType) = false ∧ (k == G.kIdResult) = true ∧ q = 0 ∧ a.rid = none ∧ a.ops = [] ∧ NoRes G rest) ∨
    NoRes G ((k, q) :: rest) := by
  simp only [LeadOk] at h
  split at h
  next k1 =>
    obtain ⟨hq, h1, h2, h3, hrest⟩ := h
    have k2 : (k == G.kIdResult) = false := by rw [eq_of_beq k1, BEq.comm]; exact hne
    refine .inl ⟨k1, k2, hq, h1, h2, h3, fun w => ?_⟩
    rcases rest with _ | ⟨⟨k', q'⟩, rest'⟩
    · trivial
    dsimp only at hrest
    split at hrest
    next hk' =>
      have hk'1 : (k' == G.kIdResultType) = false := by rw [eq_of_beq hk']; exact hne
      simp only [LeadOk, hk'1, hk', Bool.false_eq_true, if_false, if_true]
      exact ⟨hrest.1, h2, h3, hrest.2⟩
    · exact leadOk_of_noRes hrest
  split at h
  next k1 k2 => exact .inr (.inl ⟨Bool.eq_false_iff.2 k1, k2, h⟩)
  · exact .inr (.inr h)

theorem noRes_filter {ops : List (Nat × Nat)} (h : NoRes G ops) : ops.filter (fun o => !isRes G o.1) = ops :=
  List.filter_eq_self.2 fun o ho => by simp [isRes, (h o ho).1, (h o ho).2]

theorem noRes_any {ops : List (Nat × Nat)} (h : NoRes G ops) :
    ops.any (fun o => o.1 == G.kIdResultType) = false ∧ ops.any (fun o => o.1 == G.kIdResult) = false :=
  ⟨List.any_eq_false.2 fun o ho => by simp [(h o ho).1], List.any_eq_false.2 fun o ho => by simp [(h o ho).2]⟩

theorem noRes_of_bool {l : List (Nat × Nat)} (hl : noResultKinds ⟨G.kIdResultType, G.kIdResult⟩ l = true) : NoRes G l :=
  fun o ho => by
    simp only [noResultKinds, List.all_eq_true, Bool.and_eq_true, bne_iff_ne, ne_eq] at hl
    exact ⟨by simpa using (hl o ho).1, by simpa using (hl o ho).2⟩

/-- the Boolean table check `resultsLead` (C09: part of `Entry.wf`) gives `LeadOk` for the empty accumulator: the same
cascade of tests, branch by branch -/
theorem leadOk_of_resultsLead {G : Tables} {ops : List (Nat × Nat)}
    (h : resultsLead ⟨G.kIdResultType, G.kIdResult⟩ ops = true) : LeadOk G ops ⟨none, none, []⟩ := by
  rcases ops with _ | ⟨⟨k, q⟩, t⟩
  · trivial
  unfold resultsLead at h
  rw [Bool.ite_eq_true_distrib, Bool.ite_eq_true_distrib] at h
  refine ite_imp (fun _ h => ?_) (fun _ => ite_imp (fun _ h => ?_) fun _ => noRes_of_bool) h
  · rw [Bool.and_eq_true] at h
    refine ⟨beq_iff_eq.1 h.1, rfl, rfl, rfl, ?_⟩
    rcases t with _ | ⟨⟨k2, q2⟩, t2⟩
    · trivial
    · have h2 := h.2
      dsimp only at h2
      rw [Bool.ite_eq_true_distrib] at h2
      exact ite_imp (fun _ h => ⟨beq_iff_eq.1 (Bool.and_eq_true _ _ ▸ h).1, noRes_of_bool (Bool.and_eq_true _ _ ▸ h).2⟩)
        (fun _ => noRes_of_bool) h2
  · rw [Bool.and_eq_true] at h
    exact ⟨beq_iff_eq.1 h.1, rfl, rfl, noRes_of_bool h.2⟩

/-- every enumeration's `from_u32` returns the number it was given (C08's table check) -/
def EnumsExact (G : Tables) : Prop := ∀ E ∈ G.enums, E.rangesExact = true

/-- what the theorems need of the tables; each item is a Boolean check decided by the kernel on the regenerated tables -/
structure GoodTables (G : Tables) : Prop where
  kinds : coreKindsOk G = true
  enums : EnumsExact G
  lead : ∀ e ∈ G.core, resultsLead ⟨G.kIdResultType, G.kIdResult⟩ e.ops = true
  distinct : (G.kIdResult == G.kIdResultType) = false

theorem GoodTables.kindsOk {G : Tables} (good : GoodTables G) {e : Entry} (he : e ∈ G.core) : KindsOk G e.ops :=
  List.all_eq_true.1 (List.all_eq_true.1 good.kinds e he)

/-! ### instructions -/

theorem first_word (op len : Nat) (hop : op < 65536) (hlen : len < 65536) :
    (op ||| (len * 65536 % 4294967296)) / 65536 = len ∧ (op ||| (len * 65536 % 4294967296)) % 65536 = op := by
  -- the shifted length fits 32 bits and has no bit in common with the opcode, so the `|||` is a sum
  rw [Nat.mod_eq_of_lt (Nat.mul_lt_mul_of_lt_of_le hlen (Nat.le_refl 65536) (by decide) : len * 65536 < 65536 * 65536),
    Nat.or_comm, Nat.mul_comm, ← Nat.two_pow_add_eq_or_of_lt (i := 16) hop len]
  exact ⟨by rw [Nat.mul_add_div (by decide), Nat.div_eq_of_lt hop]; rfl, by rw [Nat.mul_add_mod]; exact Nat.mod_eq_of_lt hop⟩

/-- **C02 (first word).** The assembler's first word carries the number of words it emits and the opcode. -/
theorem C02_first_word (i : Inst) (hop : i.opcode < 65536) (hlen : (assembleInst i).length < 65536) :
    ∃ w0 body, assembleInst i = w0 :: body ∧ w0 / 65536 = (assembleInst i).length ∧ w0 % 65536 = i.opcode ∧
      body = i.rtype.toList ++ i.rid.toList ++ i.operands.flatMap encodeOperand :=
  let ⟨h1, h2⟩ := first_word i.opcode (assembleInst i).length hop hlen
  ⟨_, _, rfl, h1, h2, rfl⟩

/-- the recogniser on the words the assembler emits for `i`, given how the operand loop fares on the words after the first -/
theorem inst_assembled {τ : Tracker} {i : Inst} {e : Entry} (hlook : lookupOpcode G.core i.opcode = some e)
    (hop : i.opcode < 65536) (hlen : (assembleInst i).length < 65536)
    (hl : ∀ fuel, e.ops.length + (accWords ⟨i.rtype, i.rid, i.operands⟩).length < fuel →
      Spec.loop G τ e.opcode fuel e.ops ⟨none, none, []⟩ (accWords ⟨i.rtype, i.rid, i.operands⟩) =
        some (⟨i.rtype, i.rid, i.operands⟩, [])) (r' : List Nat) :
    Spec.inst G τ (assembleInst i ++ r') = some (i, r') := by
  obtain ⟨w0, body, hasm, f1, f2, hbody⟩ := C02_first_word i hop hlen
  have hb : body = accWords ⟨i.rtype, i.rid, i.operands⟩ := hbody
  have hwc : w0 / 65536 - 1 = body.length := by rw [f1, hasm]; rfl
  refine Spec.inst_some.2 ⟨w0, body ++ r', e, ⟨i.rtype, i.rid, i.operands⟩, by rw [hasm]; rfl, by rw [f1, hasm]; simp,
    by rw [f2]; exact hlook, by rw [hwc]; simp, ?_, ?_, by rw [hwc, List.drop_left' rfl]⟩
  · rw [hwc, List.take_left' rfl, hb]
    exact hl _ (by rw [f1, hasm, ← hb]; simp; omega)
  · rw [(lookupOpcode_some _ _ _ hlook).2]

end Rspirv.Props.C02
