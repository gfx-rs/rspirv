import Rspirv.Model.Lift
/-!
# C18 — one successful iteration of each loop of `convert`

`Model.Lift` spells every `?`, `unwrap` and `expect` of `lift/mod.rs` out as a `match`. Each `_step` / `_ok` lemma here
says once what a successful run of one loop body is; the theorems about the loops (content, counts, invariants) are
inductions over these. The one exception is `liftGlobals_step`, an equation that holds of every run: the first loop is the
iteration of `gstep`, and `gstep_cases` says what a successful `gstep` is (these stand in namespace `C18Globals`, between two
stretches of `C18`). The predicates the counts are stated with (`isTypeDecl`, `isOpInst`, …) come first.

The proofs have one shape: `fun_cases f …` takes the body of `f` apart, one goal per branch with the outcome of every
`match` / `if` on the way as a hypothesis; `cases h` closes the branches that return `.err` or `.panic`, and what is left
are the successful paths. (`unfold f at h` and `split at h` until nothing is left to split give the same goals at two to
ten times the cost.) `fun_cases` wants variables as arguments, so a loop's `i :: rest` is made one first.
-/
namespace Rspirv.Props.C18
open Rspirv Rspirv.Model

/-! ### what `convert` counts, and the opcodes its lifts refuse -/

/-- an instruction of `types_global_values` that declares a type: an opcode `lift_type` has an arm for, with a result id -/
def isTypeDecl (T : LiftTables) (i : Inst) : Bool := (T.type_.find? (fun a => a.opcode == i.opcode)).isSome && i.rid.isSome

def isConstOpcode (T : LiftTables) (op : Nat) : Bool :=
  op == T.opConstantTrue || op == T.opConstantFalse || op == T.opConstant || op == T.opConstantComposite ||
  op == T.opConstantSampler || op == T.opConstantNull || op == T.opConstantCompositeContinuedINTEL ||
  op == T.opSpecConstantCompositeContinuedINTEL

/-- … that declares a constant `lift_constant` handles: not a type opcode, one of its opcodes, with a result id -/
def isConstDecl (T : LiftTables) (i : Inst) : Bool :=
  !(T.type_.find? (fun a => a.opcode == i.opcode)).isSome && isConstOpcode T i.opcode && i.rid.isSome

/-- a block instruction that becomes an operation: not `OpLine`, not `OpPhi`, with a result id -/
def isOpInst (T : LiftTables) (i : Inst) : Bool := !(i.opcode == T.opLine) && !(i.opcode == T.opPhi) && i.rid.isSome

def isPhi (T : LiftTables) (i : Inst) : Bool := !(i.opcode == T.opLine) && i.opcode == T.opPhi

/-- the operations a list of blocks contributes -/
def blockOps (T : LiftTables) (bs : List (Block Inst)) : Nat :=
  (bs.map (fun b => (b.insts.filter (isOpInst T)).length)).sum

def functionOps (T : LiftTables) (fs : List (Function Inst)) : Nat := (fs.map (fun f => blockOps T f.blocks)).sum

theorem liftWith_wrongOpcode (T : LiftTables) (c : LCtx) (arms : List LArm) (i : Inst) :
    Model.liftWith T c arms i = .err .wrongOpcode ↔ (arms.find? (fun a => a.opcode == i.opcode)).isSome = false := by
  fun_cases Model.liftWith T c arms i <;> simp [*]

theorem liftWith_ok_arm (T : LiftTables) (c : LCtx) (arms : List LArm) (i : Inst) (n : LNode)
    (h : Model.liftWith T c arms i = .ok n) : (arms.find? (fun a => a.opcode == i.opcode)).isSome = true := by
  cases hf : (arms.find? (fun a => a.opcode == i.opcode)).isSome
  · rw [(liftWith_wrongOpcode T c arms i).2 hf] at h; cases h
  · rfl

theorem liftConstant_go_ne (T : LiftTables) (c : LCtx) (l : List Operand) : liftConstant.go T c l ≠ .err .wrongOpcode := by
  -- a branch returns another constant, or the recursive result as it is (`r => r`)
  fun_induction liftConstant.go T c l <;> first | assumption | exact fun h => by cases h

theorem liftConstant_wrongOpcode (T : LiftTables) (c : LCtx) (i : Inst) :
    liftConstant T c i = .err .wrongOpcode → isConstOpcode T i.opcode = false := by
  fun_cases liftConstant T c i <;> intro h <;> first | cases h | skip
  -- left: the composite loop failed with this error, which it never does; the last `else`, every test before it false
  · exact absurd ‹_› (liftConstant_go_ne T c _)
  · simp only [Bool.or_eq_true, not_or, Bool.not_eq_true] at *
    simp only [isConstOpcode, *, Bool.or_false]

theorem liftConstant_ok_opcode (T : LiftTables) (c : LCtx) (i : Inst) (n : LNode) (h : liftConstant T c i = .ok n) :
    isConstOpcode T i.opcode = true := by
  cases hop : isConstOpcode T i.opcode with
  | true => rfl
  | false =>
    simp only [isConstOpcode, Bool.or_eq_false_iff] at hop
    simp [liftConstant, hop] at h

end Rspirv.Props.C18

namespace Rspirv.Props.C18Globals
open Rspirv Rspirv.Model Rspirv.Props.C18

/-- one iteration of the first loop of `convert` -/
def gstep (T : LiftTables) (c : LCtx) (i : Inst) : LRes ConvErr LCtx :=
  match liftWith T c T.type_ i with
  | .ok v =>
    (match i.rid with
     | some id =>
       if (lookupId c.typeIds id).isSome then .panic "Id is already used"
       else .ok { c with types := c.types ++ [v], typeIds := (id, c.types.length) :: c.typeIds }
     | none => .ok c)
  | .panic s => .panic s
  | .err .wrongOpcode =>
    (match liftConstant T c i with
     | .ok v =>
       (match i.rid with
        | some id =>
          if (lookupId c.constIds id).isSome then .panic "Id is already used"
          else .ok { c with consts := c.consts ++ [v], constIds := (id, c.consts.length) :: c.constIds }
        | none => .ok c)
     | .panic s => .panic s
     | .err .wrongOpcode => .ok c
     | .err _ => .panic "Constant lift error")
  | .err _ => .panic "Type lift error"

/-- continue with the rest after one step -/
def andThen (r : LRes ConvErr LCtx) (k : LCtx → LRes ConvErr LCtx) : LRes ConvErr LCtx :=
  match r with
  | .ok c => k c
  | .err e => .err e
  | .panic s => .panic s

theorem andThen_ok {r : LRes ConvErr LCtx} {k : LCtx → LRes ConvErr LCtx} {c' : LCtx} (h : andThen r k = .ok c') :
    ∃ c1, r = .ok c1 ∧ k c1 = .ok c' := by
  cases r with
  | ok c1 => exact ⟨c1, rfl, h⟩
  | err e => cases h
  | panic s => cases h

theorem liftGlobals_step (T : LiftTables) (c : LCtx) (i : Inst) (rest : List Inst) :
    liftGlobals T c (i :: rest) = andThen (gstep T c i) (fun c1 => liftGlobals T c1 rest) := by
  rw [liftGlobals]
  fun_cases gstep T c i <;> simp only [*] <;> rfl

/-- the three outcomes of a successful step -/
inductive GStep (T : LiftTables) (c : LCtx) (i : Inst) : LCtx → Prop
  | type (v : LNode) (id : Nat) : liftWith T c T.type_ i = .ok v → i.rid = some id → lookupId c.typeIds id = none →
      GStep T c i { c with types := c.types ++ [v], typeIds := (id, c.types.length) :: c.typeIds }
  | const (v : LNode) (id : Nat) : liftWith T c T.type_ i = .err .wrongOpcode → liftConstant T c i = .ok v →
      i.rid = some id → lookupId c.constIds id = none →
      GStep T c i { c with consts := c.consts ++ [v], constIds := (id, c.consts.length) :: c.constIds }
  | skip : GStep T c i c

/-- a successful step appends a type exactly at a type declaration, a constant exactly at a constant declaration, and
otherwise leaves the context alone -/
theorem gstep_cases {T : LiftTables} {c : LCtx} {i : Inst} {c1 : LCtx} : gstep T c i = .ok c1 →
    (∃ v id, liftWith T c T.type_ i = .ok v ∧ i.rid = some id ∧ lookupId c.typeIds id = none ∧
      c1 = { c with types := c.types ++ [v], typeIds := (id, c.types.length) :: c.typeIds } ∧
      isTypeDecl T i = true ∧ isConstDecl T i = false) ∨
    (∃ v id, liftWith T c T.type_ i = .err .wrongOpcode ∧ liftConstant T c i = .ok v ∧ i.rid = some id ∧
      lookupId c.constIds id = none ∧
      c1 = { c with consts := c.consts ++ [v], constIds := (id, c.consts.length) :: c.constIds } ∧
      isTypeDecl T i = false ∧ isConstDecl T i = true) ∨
    (c1 = c ∧ isTypeDecl T i = false ∧ isConstDecl T i = false) := by
  fun_cases gstep T c i <;> intro h <;> first | cases h | skip
  -- left: a type with / without result id, a constant with / without result id, neither
  · rename_i v hw id hr hn
    have harm := liftWith_ok_arm T c _ i v hw
    exact .inl ⟨v, id, hw, hr, by simpa using hn, rfl, by simp [isTypeDecl, harm, hr], by simp [isConstDecl, harm]⟩
  · rename_i hr
    exact .inr (.inr ⟨rfl, by simp [isTypeDecl, hr], by simp [isConstDecl, hr]⟩)
  · rename_i hw v hc id hr hn
    have harm := (liftWith_wrongOpcode T c _ i).1 hw
    exact .inr (.inl ⟨v, id, hw, hc, hr, by simpa using hn, rfl, by simp [isTypeDecl, harm],
      by simp [isConstDecl, harm, hr, liftConstant_ok_opcode T c i v hc]⟩)
  · rename_i hr
    exact .inr (.inr ⟨rfl, by simp [isTypeDecl, hr], by simp [isConstDecl, hr]⟩)
  · rename_i hw hc
    exact .inr (.inr ⟨rfl, by simp [isTypeDecl, (liftWith_wrongOpcode T c _ i).1 hw],
      by simp [isConstDecl, liftConstant_wrongOpcode T c i hc]⟩)

theorem gstep_ok (T : LiftTables) (c : LCtx) (i : Inst) (c1 : LCtx) (h : gstep T c i = .ok c1) : GStep T c i c1 := by
  rcases gstep_cases h with ⟨v, id, hw, hr, hn, rfl, _⟩ | ⟨v, id, hw, hc, hr, hn, rfl, _⟩ | ⟨rfl, _⟩
  · exact .type v id hw hr hn
  · exact .const v id hw hc hr hn
  · exact .skip

theorem liftGlobals_cons_ok {T : LiftTables} {c c' : LCtx} {i : Inst} {rest : List Inst}
    (h : liftGlobals T c (i :: rest) = .ok c') : ∃ c1, gstep T c i = .ok c1 ∧ liftGlobals T c1 rest = .ok c' :=
  andThen_ok (liftGlobals_step T c i rest ▸ h)

end Rspirv.Props.C18Globals

namespace Rspirv.Props.C18
open Rspirv Rspirv.Model

/-- the three things `liftBlockInsts` can do with the first instruction of a successful run: skip it, take the result
type of a phi as a block argument, or append an operation -/
theorem liftBlockInsts_step {T : LiftTables} {c : LCtx} {args : List LVal} {i : Inst} {rest : List Inst}
    {r : LCtx × List LVal} : liftBlockInsts T c args (i :: rest) = .ok r →
    (isOpInst T i = false ∧ isPhi T i = false ∧ liftBlockInsts T c args rest = .ok r) ∨
    (isOpInst T i = false ∧ isPhi T i = true ∧ ∃ rt ty, i.rtype = some rt ∧ lookupId c.typeIds rt = some ty ∧
      liftBlockInsts T c (args ++ [.tok ty]) rest = .ok r) ∨
    (isOpInst T i = true ∧ isPhi T i = false ∧ ∃ op id oty, Model.liftWith T c T.op i = .ok op ∧
      liftBlockInsts T { c with ops := c.ops ++ [op], opIds := (id, c.ops.length, oty) :: c.opIds } args rest = .ok r) := by
  generalize hl : i :: rest = l
  fun_cases liftBlockInsts T c args l <;> intro h <;> cases hl <;> first | cases h | skip
  -- left: `OpLine`, `OpPhi`, no result id, an operation without / with result type
  · exact .inl ⟨by simp [isOpInst, *], by simp [isPhi, *], h⟩
  · exact .inr (.inl ⟨by simp [isOpInst, *], by simp [isPhi, *], _, _, ‹_›, ‹_›, h⟩)
  · exact .inl ⟨by simp [isOpInst, *], by simp [isPhi, *], h⟩
  · exact .inr (.inr ⟨by simp [isOpInst, *], by simp [isPhi, *], _, _, _, ‹_›, h⟩)
  · exact .inr (.inr ⟨by simp [isOpInst, *], by simp [isPhi, *], _, _, _, ‹_›, h⟩)

theorem liftBlocks_step {T : LiftTables} {c : LCtx} {acc : List LBlock} {b : Block Inst} {rest : List (Block Inst)}
    {r : LCtx × List LBlock} : liftBlocks T c acc (b :: rest) = .ok r →
    ∃ c1 args last term lid, liftBlockInsts T c [] b.insts = .ok (c1, args) ∧ b.insts.getLast? = some last ∧
      liftTerminator T c1 last = .ok term ∧ b.label.bind (·.rid) = some lid ∧
      liftBlocks T { c1 with blocks := c1.blocks ++ [term], blockIds := (lid, acc.length) :: c1.blockIds }
        (acc ++ [⟨args, term⟩]) rest = .ok r := by
  generalize hl : b :: rest = l
  fun_cases liftBlocks T c acc l <;> intro h <;> cases hl <;> first | cases h | skip
  exact ⟨_, _, _, _, _, ‹_›, ‹_›, ‹_›, ‹_›, h⟩

theorem liftFunctions_step {T : LiftTables} {c : LCtx} {acc : List LFunction} {f : Function Inst}
    {rest : List (Function Inst)} {r : LCtx × List LFunction} : liftFunctions T c acc (f :: rest) = .ok r →
    ∃ d arm defn c1 blocks start rt res, f.def_ = some d ∧ T.function = some arm ∧
      Model.liftWith T c [arm] d = .ok defn ∧
      liftBlocks T { c with blocks := [], blockIds := [] } [] f.blocks = .ok (c1, blocks) ∧
      d.rtype = some rt ∧ lookupId c1.typeIds rt = some res ∧
      liftFunctions T { c1 with blocks := [], blockIds := [] }
        (acc ++ [⟨(nodeField defn T.nFunctionControl).getD .none, res, blocks, start⟩]) rest = .ok r := by
  generalize hl : f :: rest = l
  fun_cases liftFunctions T c acc l <;> intro h <;> cases hl <;> first | cases h | skip
  exact ⟨_, _, _, _, _, _, _, _, ‹_›, ‹_›, ‹_›, ‹_›, ‹_›, ‹_›, h⟩

theorem convert_ok {T : LiftTables} {m : Module Inst} {lm : LModule} : convert T m = .ok lm →
    ∃ c0 c fns hd, liftGlobals T LCtx.empty m.typesGlobalValues = .ok c0 ∧
      liftFunctions T c0 [] m.functions = .ok (c, fns) ∧ m.header = some hd ∧ lm.version = hd.version ∧
      lm.types = c.types ∧ lm.consts = c.consts ∧ lm.ops = c.ops ∧ lm.functions = fns := by
  fun_cases convert T m <;> intro h <;> first | cases h | skip
  exact ⟨_, _, _, _, ‹_›, ‹_›, ‹_›, rfl, rfl, rfl, rfl, rfl⟩

end Rspirv.Props.C18
