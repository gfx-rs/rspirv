import Rspirv.Model.Parser
/-!
# C10 — one step of the type tracker

`Tracker.track` reads the tracker only through `resolve`, and all it does to it is push at most one binding. `binding` is that
binding as a function of the instruction and of `resolve` (`track_eq_binding`); `binding_cases` says what it can be.
-/
namespace Rspirv.Props.C10
open Rspirv Rspirv.Model

/-- what one `track` step binds, as a function of the instruction and of `resolve` alone: `none` = the
out-of-bounds panic, `some none` = nothing bound -/
def binding (G : TTables) (res : Nat → Option TType) (i : Inst) : Option (Option (Nat × TType)) :=
  match i.rid with
  | none => some none
  | some rid =>
    if G.isType i.opcode then
      if i.opcode == G.opTypeInt then
        match i.operands with
        | o0 :: o1 :: _ =>
          match o0, o1 with
          | .w v0 bits, .w v1 sign => if v0 == G.vLit32 && v1 == G.vLit32 then some (some (rid, .int bits (sign == 1))) else some none
          | _, _ => some none
        | _ => none
      else if i.opcode == G.opTypeFloat then
        match i.operands with
        | o0 :: _ =>
          match o0 with
          | .w v0 bits => if v0 == G.vLit32 then some (some (rid, .float bits)) else some none
          | _ => some none
        | _ => none
      else some none
    else
      match i.rtype.bind res with
      | some t => some (some (rid, t))
      | none => some none

/-- push the binding, if any -/
def bindInto (τ : Tracker) : Option (Nat × TType) → Tracker
  | some b => b :: τ
  | none => τ

/-- `track` = compute the binding from `resolve`, then push it: the two have the same case tree -/
theorem track_eq_binding (G : TTables) (τ : Tracker) (i : Inst) :
    τ.track G i = (binding G τ.resolve i).map (bindInto τ) := by
  fun_cases Tracker.track G τ i <;> simp [binding, bindInto, *]

/-- `binding` is nothing, the instruction's own result id with some type, or the panic of an `OpTypeInt` / `OpTypeFloat` with
fewer operands than `track` indexes -/
theorem binding_cases (G : TTables) (res : Nat → Option TType) (i : Inst) :
    binding G res i = some none ∨ (∃ rid t, i.rid = some rid ∧ binding G res i = some (some (rid, t))) ∨
      (binding G res i = none ∧ ((i.opcode = G.opTypeInt ∧ i.operands.length < 2) ∨
        (i.opcode = G.opTypeFloat ∧ i.operands.length < 1))) := by
  fun_cases binding G res i <;>
    first | exact .inl rfl | exact .inr (.inl ⟨_, _, ‹_›, rfl⟩) | refine .inr (.inr ⟨rfl, ?_⟩)
  · -- `OpTypeInt`, and no two operands
    rename_i hi hn
    refine .inl ⟨beq_iff_eq.1 hi, ?_⟩
    rcases h : i.operands with _ | ⟨_, _ | _⟩
    · exact Nat.zero_lt_succ _
    · exact Nat.lt_succ_self _
    · exact absurd h (hn _ _ _)
  · -- `OpTypeFloat`, and no operand
    rename_i hf hn
    refine .inr ⟨beq_iff_eq.1 hf, ?_⟩
    rcases h : i.operands with _ | _
    · exact Nat.zero_lt_succ _
    · exact absurd h (hn _ _)

/-- The three things one `track` step can do: nothing; bind the instruction's own result id; or index past the operands of
an `OpTypeInt` / `OpTypeFloat` that has too few of them. -/
theorem track_cases (G : TTables) (τ : Tracker) (i : Inst) :
    τ.track G i = some τ ∨ (∃ rid t, i.rid = some rid ∧ τ.track G i = some ((rid, t) :: τ)) ∨
    (τ.track G i = none ∧ ((i.opcode = G.opTypeInt ∧ i.operands.length < 2) ∨
      (i.opcode = G.opTypeFloat ∧ i.operands.length < 1))) := by
  rw [track_eq_binding]
  obtain h | ⟨rid, t, hr, h⟩ | ⟨h, hs⟩ := binding_cases G τ.resolve i <;> rw [h]
  · exact .inl rfl
  · exact .inr (.inl ⟨rid, t, hr, rfl⟩)
  · exact .inr (.inr ⟨rfl, hs⟩)

end Rspirv.Props.C10
