import Rspirv.Props.C04
import Rspirv.Instances
/-!
# C04 and C20 at the tables regenerated from the working tree

`tablesSafe`, the hypothesis of `C04_parse`, `C04_load` and `C20_main`, evaluated by the kernel on `theTables`.
-/
namespace Rspirv.Props.C04
open Rspirv Rspirv.Model Rspirv.Model.DState Rspirv.Props.C11

open Rspirv.Instances

/-- kernel evaluation of the abstract interpretation over all regenerated grammar entries and operand kinds -/
theorem tables_safe : tablesSafe theTables = true := by decide +kernel

/-- **C04.** With the tables regenerated from the source: parsing any byte string with any consumer never panics -/
theorem C04 (script : Nat → Action) (bytes : List Nat) (hs : bytes.length < 2 ^ 63) :
    ∀ s, (parse theTables script bytes).result ≠ .panic s :=
  C04_parse theTables tables_safe script bytes hs

/-- **C04 (loading).** `load_bytes` never panics -/
theorem C04_loader (bytes : List Nat) (hs : bytes.length < 2 ^ 63) :
    ∀ site, loadBytes theTables theLTables bytes ≠ .error (.panic site) :=
  C04_load theTables tables_safe theLTables bytes hs

/-- **C20.** `rspirv-dis` on any file content: normal termination, output = disassembly or error message, newline-terminated -/
theorem C20 (bytes : List Nat) (hs : bytes.length < 2 ^ 63) :
    (∃ m, loadBytes theTables theLTables bytes = .ok m ∧
      disMain theTables theLTables theDTables bytes = some (disasText theDTables m ++ "\n")) ∨
    (∃ e msg, loadBytes theTables theLTables bytes = .error e ∧ loadErrText theTables.core bytes e = some msg ∧
      disMain theTables theLTables theDTables bytes = some (msg ++ "\n")) :=
  C20_main theTables tables_safe theLTables theDTables bytes hs

/-! ### non-vacuity and teeth of the table check -/

/-- the check refuses a table in which `OpSwitch`'s literal/label pairs come before the selector -/
example : absLoop theTables theTables.opSwitch [(theTables.kPairLitId, 2)] ⟨false, .empty, 0⟩ = none := by decide +kernel
/-- ... and a context dependent number in an instruction without result type -/
example : absLoop theTables theTables.opConstant [(theTables.kIdResult, 0), (theTables.kCtxNumber, 0)] ⟨false, .empty, 0⟩ = none := by
  decide +kernel
example : absLoop theTables theTables.opTypeInt [(theTables.kIdResult, 0), (59, 0), (59, 0)] ⟨false, .empty, 0⟩ = some 2 := by
  decide +kernel

end Rspirv.Props.C04
