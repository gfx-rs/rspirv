import Rspirv.Props.LoaderStep
/-!
# C05 — the loader accepts exactly well-bracketed function/block structure

`A` is the specification: a three-state bracket automaton over instruction classes, short enough to read.
The loader model (`Rspirv.Model.LState.step`, tied to `dr/loader.rs` by the `load` channel) is proved to refine
it step by step — same acceptance, same error at the same instruction — for every instruction sequence and every
table set. The section theorem follows from what one step does to the sections (`Step.sect`, `Props/LoaderStep.lean`).
The shape theorem `C05_shape` speaks of `FnDone` below; it is a corollary of `Reload.canon_of_load` and stands at the end
of `Props/Reload.lean`.
-/
namespace Rspirv.Props.C05
open Rspirv Rspirv.Model

/-! ### the specification automaton -/

inductive AState where
  | top | inFn | inBlock
deriving Repr, DecidableEq

/-- one instruction of class `c` (opcode `op`, only used as the payload of the detached-instruction error) -/
def A.step : AState → Cls → Nat → Except LErr AState
  -- module-level classes and OpLine/OpNoLine are accepted in every state and never change it
  | s, .sect _, _ => .ok s
  | s, .line, _ => .ok s
  -- variables and undefs: module-level when no function is open, block instructions inside a block
  | .top, .varOp, _ => .ok .top
  | .top, .undefOp, _ => .ok .top
  | .inFn, .varOp, op => .error (.detachedInstruction op)
  | .inFn, .undefOp, op => .error (.detachedInstruction op)
  | .inBlock, .varOp, _ => .ok .inBlock
  | .inBlock, .undefOp, _ => .ok .inBlock
  -- functions are never nested
  | .top, .fn, _ => .ok .inFn
  | _, .fn, _ => .error .nestedFunction
  -- a function end needs an open function and no open block
  | .top, .fnEnd, _ => .error .mismatchedFunctionEnd
  | .inFn, .fnEnd, _ => .ok .top
  | .inBlock, .fnEnd, _ => .error .unclosedBlock
  -- parameters only inside a function
  | .top, .param, _ => .error .detachedFunctionParameter
  | s, .param, _ => .ok s
  -- labels only inside a function and never inside an open block
  | .top, .label, _ => .error .detachedBlock
  | .inFn, .label, _ => .ok .inBlock
  | .inBlock, .label, _ => .error .nestedBlock
  -- a terminator closes the open block
  | .inBlock, .term, _ => .ok .inFn
  | _, .term, _ => .error .mismatchedTerminator
  -- every other instruction sits inside an open block
  | .inBlock, .other, _ => .ok .inBlock
  | _, .other, op => .error (.detachedInstruction op)

def A.run (L : LTables) : AState → List Inst → Except LErr AState
  | s, [] => .ok s
  | s, i :: is => match A.step s (classify L i.opcode) i.opcode with
    | .ok s' => A.run L s' is
    | .error e => .error e

/-- at the end: no open block, no open function -/
def A.finalize : AState → Except LErr Unit
  | .top => .ok ()
  | .inFn => .error .unclosedFunction
  | .inBlock => .error .unclosedBlock

/-! ### refinement -/

def abs (s : LState) : AState :=
  match s.function, s.block with
  | none, _ => .top
  | some _, none => .inFn
  | some _, some _ => .inBlock

/-- an open block implies an open function (what makes the loader's `unwrap()`s safe) -/
def Inv (s : LState) : Prop := s.block.isSome → s.function.isSome

theorem inv_init (m : Module Inst) : Inv ⟨m, none, none⟩ := by intro h; cases h

theorem step_refines (L : LTables) (s : LState) (i : Inst) (hi : Inv s) :
    (match s.step L i with
     | .ok s' => A.step (abs s) (classify L i.opcode) i.opcode = .ok (abs s') ∧ Inv s'
     | .error e => A.step (abs s) (classify L i.opcode) i.opcode = .error e) := by
  rcases s with ⟨m, _ | f, _ | b⟩
  -- `Inv` rules out a block without a function; in the three other situations both sides compute, class by class
  case none.some => cases hi rfl
  all_goals unfold LState.step; cases hc : classify L i.opcode <;> simp [abs, A.step, Inv, pushBlock]

theorem step_inv (L : LTables) (s s' : LState) (i : Inst) (hinv : Inv s) (h : s.step L i = .ok s') : Inv s' := by
  have := step_refines L s i hinv
  rw [h] at this
  exact this.2

theorem run_refines (L : LTables) : ∀ (is : List Inst) (s : LState), Inv s →
    (match LState.run L s is with
     | .ok s' => A.run L (abs s) is = .ok (abs s') ∧ Inv s'
     | .error e => A.run L (abs s) is = .error e) := by
  intro is s hi
  fun_induction LState.run L s is with
  | case1 => exact ⟨rfl, hi⟩
  | case2 s i _ _ h1 ih =>
    obtain ⟨h, hi'⟩ : _ ∧ _ := h1 ▸ step_refines L s i hi
    rw [A.run, h]; exact ih hi'
  | case3 s i _ _ h1 =>
    have h : _ = _ := h1 ▸ step_refines L s i hi
    rw [A.run, h]

/- The statements of `run_refines` and `C05_accept` elaborate to the matchers `step_refines.match_1` and
`finalize_refines.match_1`: the first `match` on an `Except LErr LState`, resp. `Except LErr (Module Inst)`, in this file
must stay in `step_refines`, resp. here. -/
theorem finalize_refines (s : LState) (hi : Inv s) :
    (match s.finalize with
     | .ok _ => A.finalize (abs s) = .ok ()
     | .error e => A.finalize (abs s) = .error e) := by
  unfold Inv at hi
  obtain ⟨m, f, b⟩ := s
  cases f <;> cases b <;> simp_all [LState.finalize, abs, A.finalize]

/-- the specification's verdict on a whole instruction sequence -/
def A.verdict (L : LTables) (is : List Inst) : Except LErr Unit :=
  match A.run L .top is with
  | .ok s => A.finalize s
  | .error e => .error e

/-- **C05 (acceptance and errors).** For every instruction sequence the loader succeeds iff the bracket automaton
accepts, and otherwise returns exactly the automaton's error (the one matching the first offending instruction, or
the unclosed-block / unclosed-function error at the end). -/
theorem C05_accept (L : LTables) (h : Header) (is : List Inst) :
    (match load L h is with
     | .ok _ => A.verdict L is = .ok ()
     | .error e => A.verdict L is = .error e) := by
  unfold load A.verdict
  have hr := run_refines L is (LState.start h) (inv_init _)
  cases hrun : LState.run L (LState.start h) is <;> simp only [hrun] at hr ⊢
  · rw [show A.run L .top is = _ from hr]
  · rw [show A.run L .top is = _ from hr.1]; exact finalize_refines _ hr.2

/-! ### shape of the loaded module -/

def isTerm (L : LTables) (i : Inst) : Prop := classify L i.opcode = .term

/-- a finished block: labelled, ends with a terminator that occurs nowhere else in it -/
def BlockDone (L : LTables) (b : Block Inst) : Prop :=
  b.label.isSome ∧ ∃ init t, b.insts = init ++ [t] ∧ isTerm L t ∧ ∀ x ∈ init, ¬ isTerm L x

def FnDone (L : LTables) (f : Function Inst) : Prop :=
  f.def_.isSome ∧ f.end_.isSome ∧ ∀ b ∈ f.blocks, BlockDone L b

/-! ### sections -/

theorem run_sect {L : LTables} {k : Nat} (hk : k ≠ 3) (hk10 : k < 10) {is : List Inst} {s s' : LState}
    (h : LState.run L s is = .ok s') :
    s'.module.sect k = s.module.sect k ++ is.filter (fun i => decide (classify L i.opcode = .sect k)) := by
  fun_induction LState.run L s is with
  | case1 => cases h; exact (List.append_nil _).symm
  | case2 _ _ _ _ h1 ih =>
    obtain ⟨d, hd⟩ := step_ok h1
    rw [ih h, hd.sect (Nat.le_of_lt hk10) (fun _ h3 => absurd h3 hk), List.filter_cons, List.append_assoc]
    simp only [hd.sect_iff hk10, decide_eq_true_eq]
    split <;> rfl
  | case3 => cases h

/-- **C05 (sections).** On success each of the opcode-determined sections (capabilities, extensions, ext-inst imports,
entry points, execution modes, debug strings/sources, names, module-processed, annotations) holds exactly the
instructions of its class, in input order — none dropped, duplicated or invented. -/
theorem C05_sections (L : LTables) (h : Header) (is : List Inst) (m : Module Inst) (hl : load L h is = .ok m)
    (k : Nat) (hk : k ≠ 3) (hk10 : k < 10) :
    m.sect k = is.filter (fun i => decide (classify L i.opcode = .sect k)) := by
  rw [run_sect hk hk10 (load_ok.1 hl), start_sect, List.nil_append]

/-- non-vacuity: the automaton accepts a function with one block and rejects the classic malformed words -/
example : A.step .top .fn 0 = .ok .inFn ∧ A.step .inFn .label 0 = .ok .inBlock ∧ A.step .inBlock .term 0 = .ok .inFn ∧
    A.step .inFn .fnEnd 0 = .ok .top ∧ A.step .inBlock .label 0 = .error .nestedBlock ∧
    A.step .inFn .varOp 59 = .error (.detachedInstruction 59) := ⟨rfl, rfl, rfl, rfl, rfl, rfl⟩

end Rspirv.Props.C05
