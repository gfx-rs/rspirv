import Rspirv.Model.Loader
/-!
# What the loader does, said once

Lemmas for `Module.push`, `classify`, `LState.step`, `LState.run` and `load` through which C05 (sections), C01 and Reload reason
about accepted steps without unfolding them (C05's refinement of the automaton and `C01.feed_trace` are also about refused
steps, and take `step`, `run` and `load` apart themselves): `Module.sect_push` (the sections after a push), `Step` with `step_ok` and `Step.ok` (an instruction
is accepted exactly when it does one of seven things), `run_ok` (induction over accepted runs), `load_ok` (what `load … = .ok m` says about the run).
-/
namespace Rspirv.Model

/-! ### `Module.push` and the sections -/

/-- Pushing into section `k` appends to section `k` (the memory model, section 3, is overwritten) and leaves every
other section alone. A fixed 11 × 11 table of definitional equalities. -/
theorem Module.sect_push (m : Module Inst) (i : Inst) {k j : Nat} (hk : k ≤ 10) (hj : j ≤ 10) :
    (m.push k i).sect j = if j = k then (if k = 3 then [i] else m.sect j ++ [i]) else m.sect j := by
  have le10 {n : Nat} (h : n ≤ 10) : n = 0 ∨ n = 1 ∨ n = 2 ∨ n = 3 ∨ n = 4 ∨ n = 5 ∨ n = 6 ∨ n = 7 ∨ n = 8 ∨ n = 9 ∨ n = 10 := by
    omega
  rcases le10 hk with rfl | rfl | rfl | rfl | rfl | rfl | rfl | rfl | rfl | rfl | rfl <;>
    rcases le10 hj with rfl | rfl | rfl | rfl | rfl | rfl | rfl | rfl | rfl | rfl | rfl <;> rfl

/-- the same as an append, when no memory model is overwritten -/
theorem Module.sect_push_append (m : Module Inst) (i : Inst) {k j : Nat} (hk : k ≤ 10) (hj : j ≤ 10)
    (h3 : k = 3 → j = 3 → m.memoryModel = none) :
    (m.push k i).sect j = m.sect j ++ (if k = j then [i] else []) := by
  rw [Module.sect_push m i hk hj]
  by_cases hjk : j = k
  · subst hjk
    by_cases hj3 : j = 3
    · subst hj3; simp [Module.sect, h3 rfl rfl]
    · simp [hj3]
  · simp [hjk, Ne.symm hjk]

theorem Module.sect_functions (m : Module Inst) (fs : List (Function Inst)) (j : Nat) :
    ({ m with functions := fs }).sect j = m.sect j := rfl

theorem Module.sect_header (m : Module Inst) (hd : Option Header) (j : Nat) :
    ({ m with header := hd }).sect j = m.sect j := rfl

theorem Module.sect_typesGlobalValues (m : Module Inst) (l : List Inst) (j : Nat) :
    ({ m with typesGlobalValues := l }).sect j = if j = 10 then l else m.sect j := by
  unfold Module.sect
  split <;> try rfl
  exact (if_neg ‹_›).symm

theorem Module.push_functions (m : Module Inst) (k : Nat) (i : Inst) : (m.push k i).functions = m.functions := by
  fun_cases Module.push m k i <;> rfl

theorem Module.push_header (m : Module Inst) (k : Nat) (i : Inst) : (m.push k i).header = m.header := by
  fun_cases Module.push m k i <;> rfl

theorem Module.push_memoryModel (m : Module Inst) (k : Nat) (i : Inst) :
    (m.push k i).memoryModel = if k = 3 then some i else m.memoryModel := by
  fun_cases Module.push m k i <;> first | rfl | exact (if_neg ‹_›).symm

theorem start_sect (h : Header) (j : Nat) : (LState.start h).module.sect j = [] := by
  fun_cases Module.sect _ j <;> rfl

theorem Module.ext_sect {a b : Module Inst} (hs : ∀ j, j ≤ 10 → a.sect j = b.sect j) (hh : a.header = b.header)
    (hf : a.functions = b.functions) : a = b := by
  obtain ⟨a0, a1, a2, a3, a4, a5, a6, a7, a8, a9, a10, a11, a12⟩ := a
  obtain ⟨b0, b1, b2, b3, b4, b5, b6, b7, b8, b9, b10, b11, b12⟩ := b
  have h3 : a4 = b4 := by
    have : a4.toList = b4.toList := hs 3 (by decide)
    cases a4 <;> cases b4 <;> cases this <;> rfl
  rw [Module.mk.injEq]
  exact ⟨hh, hs 0 (by decide), hs 1 (by decide), hs 2 (by decide), h3, hs 4 (by decide), hs 5 (by decide),
    hs 6 (by decide), hs 7 (by decide), hs 8 (by decide), hs 9 (by decide), hs 10 (by decide), hf⟩

theorem Module.with_header (m : Module Inst) {hd : Option Header} (h : m.header = hd) : { m with header := hd } = m := by
  cases m; cases h; rfl

/-! ### `classify` -/

theorem classify_sect_le (L : LTables) {op k : Nat} : classify L op = .sect k → k ≤ 10 := by
  fun_cases classify L op <;> rintro ⟨⟩ <;> decide

/-! ### `LState.step` -/

/-- instruction `i` is pushed into section `k` of the module: its opcode has that section of its own, or it is a
global value (section 10): `OpLine`/`OpNoLine` outside a block, `OpVariable`/`OpUndef` outside a function -/
def PushAt (L : LTables) (i : Inst) (f : Option (Function Inst)) (b : Option (Block Inst)) (k : Nat) : Prop :=
  classify L i.opcode = .sect k ∨
  k = 10 ∧ (classify L i.opcode = .line ∧ b = none ∨
    (classify L i.opcode = .varOp ∨ classify L i.opcode = .undefOp) ∧ f = none)

/-- instruction `i` is appended to the open block -/
def BodyAt (L : LTables) (i : Inst) (f : Option (Function Inst)) : Prop :=
  classify L i.opcode = .line ∨ classify L i.opcode = .other ∨
  (classify L i.opcode = .varOp ∨ classify L i.opcode = .undefOp) ∧ f.isNone = false

/-- The seven things an accepted instruction `i` does to the loader; `d` is the part it goes to (a section `0..10`, or
`11` = the function part). It is pushed into section `d` of the module, appended to the open block, or it opens a
function, closes it, adds a parameter, opens a block, closes it. -/
inductive Step (L : LTables) (i : Inst) : Nat → LState → LState → Prop
  | push {m f b k} (hk : k ≤ 10) (hc : PushAt L i f b k) : Step L i k ⟨m, f, b⟩ ⟨m.push k i, f, b⟩
  | body {m f b} (hc : BodyAt L i f) :
      Step L i 11 ⟨m, f, some b⟩ ⟨m, f, some { b with insts := b.insts ++ [i] }⟩
  | fn {m b} (hc : classify L i.opcode = .fn) : Step L i 11 ⟨m, none, b⟩ ⟨m, some ⟨some i, none, [], []⟩, b⟩
  | fnEnd {m f} (hc : classify L i.opcode = .fnEnd) :
      Step L i 11 ⟨m, some f, none⟩ ⟨{ m with functions := m.functions ++ [{ f with end_ := some i }] }, none, none⟩
  | param {m f b} (hc : classify L i.opcode = .param) :
      Step L i 11 ⟨m, some f, b⟩ ⟨m, some { f with params := f.params ++ [i] }, b⟩
  | label {m f} (hc : classify L i.opcode = .label) : Step L i 11 ⟨m, some f, none⟩ ⟨m, some f, some ⟨some i, []⟩⟩
  | term {m f b} (hc : classify L i.opcode = .term) :
      Step L i 11 ⟨m, some f, some b⟩
        ⟨m, some { f with blocks := f.blocks ++ [{ b with insts := b.insts ++ [i] }] }, none⟩

/-- every accepted step is one of the seven: by cases on the class, the open function and the open block, `step` computes, and
each accepted case is one constructor with its side conditions -/
theorem step_ok {L : LTables} {s s' : LState} {i : Inst} (h : s.step L i = .ok s') : ∃ d, Step L i d s s' := by
  obtain ⟨m, f, b⟩ := s
  unfold LState.step at h
  have hle k (hk : classify L i.opcode = .sect k) := classify_sect_le L hk
  cases hc : classify L i.opcode <;> simp only [hc] at h <;> cases f <;> cases b <;> cases h <;>
    exact ⟨_, by constructor <;> simp [PushAt, BodyAt, hc, hle]⟩

theorem Step.ok {L : LTables} {i : Inst} {d : Nat} {s s' : LState} (h : Step L i d s s') : s.step L i = .ok s' := by
  cases h with
  | push _ hc => rcases hc with hc | ⟨rfl, ⟨hc, rfl⟩ | ⟨hc | hc, rfl⟩⟩ <;> simp [LState.step, hc]
  | body hc => rcases hc with hc | hc | ⟨hc | hc, hf⟩ <;> simp [LState.step, *, pushBlock]
  | fn hc | fnEnd hc | param hc | label hc | term hc => simp [LState.step, hc]

/-- below section 10 the destination is the opcode's own section: only 10 and 11 depend on the state -/
theorem Step.sect_iff {L : LTables} {i : Inst} {d : Nat} {s s' : LState} (h : Step L i d s s') {k : Nat} (hk : k < 10) :
    d = k ↔ classify L i.opcode = .sect k := by
  have h10 : 10 ≠ k := Nat.ne_of_gt hk
  have h11 : 11 ≠ k := Nat.ne_of_gt (Nat.lt_succ_of_lt hk)
  cases h with
  | push _ hc =>
    rcases hc with hc | ⟨rfl, ⟨hc, _⟩ | ⟨hc | hc, _⟩⟩
    · rw [hc, Cls.sect.injEq]
    all_goals rw [hc]; exact iff_of_false h10 Cls.noConfusion
  | body hc => rcases hc with hc | hc | ⟨hc | hc, _⟩ <;> rw [hc] <;> exact iff_of_false h11 Cls.noConfusion
  | fn hc | fnEnd hc | param hc | label hc | term hc => rw [hc]; exact iff_of_false h11 Cls.noConfusion

/-- **the sections after one step.** An accepted instruction is appended to the section it is destined to, and to no
other (but a second `OpMemoryModel` replaces the first). -/
theorem Step.sect {L : LTables} {i : Inst} {d : Nat} {s s' : LState} (h : Step L i d s s') {j : Nat} (hj : j ≤ 10)
    (h3 : d = 3 → j = 3 → s.module.memoryModel = none) :
    s'.module.sect j = s.module.sect j ++ (if d = j then [i] else []) := by
  have h11 : 11 ≠ j := Nat.ne_of_gt (Nat.lt_succ_of_le hj)
  cases h with
  | push hk _ => exact Module.sect_push_append _ _ hk hj h3
  | fnEnd => rw [if_neg h11, List.append_nil]; exact Module.sect_functions ..
  | body | fn | param | label | term => rw [if_neg h11, List.append_nil]

theorem step_header {L : LTables} {s s' : LState} {i : Inst} (h : s.step L i = .ok s') :
    s'.module.header = s.module.header := by
  obtain ⟨d, hs⟩ := step_ok h
  cases hs with
  | push => exact Module.push_header ..
  | _ => rfl

/-! ### `LState.run` and `load` -/

theorem run_append (L : LTables) (a b : List Inst) (s : LState) :
    LState.run L s (a ++ b) = (match LState.run L s a with | .ok s' => LState.run L s' b | .error e => .error e) := by
  fun_induction LState.run L s a with
  | case1 => rfl
  | case2 _ _ _ _ h1 ih => rw [List.cons_append, LState.run, h1]; exact ih
  | case3 _ _ _ _ h1 => rw [List.cons_append, LState.run, h1]

theorem run_cons_ok {L : LTables} {s s' : LState} {i : Inst} {is : List Inst} (h : LState.run L s (i :: is) = .ok s') :
    ∃ s1, s.step L i = .ok s1 ∧ LState.run L s1 is = .ok s' := by
  unfold LState.run at h
  cases hs : s.step L i with
  | error e => rw [hs] at h; cases h
  | ok s1 => rw [hs] at h; exact ⟨s1, rfl, h⟩

theorem run_ok {L : LTables} {P : LState → Prop} (hstep : ∀ s s' i, P s → s.step L i = .ok s' → P s')
    {is : List Inst} {s s' : LState} (hs : P s) (h : LState.run L s is = .ok s') : P s' := by
  fun_induction LState.run L s is with
  | case1 => cases h; exact hs
  | case2 _ _ _ _ h1 ih => exact ih (hstep _ _ _ hs h1) h
  | case3 => cases h

theorem run_header {L : LTables} {is : List Inst} {s s' : LState} (h : LState.run L s is = .ok s') :
    s'.module.header = s.module.header :=
  run_ok (P := fun t => t.module.header = s.module.header) (fun _ _ _ hp hs => (step_header hs).trans hp) rfl h

theorem load_ok {L : LTables} {h : Header} {is : List Inst} {m : Module Inst} :
    load L h is = .ok m ↔ LState.run L (LState.start h) is = .ok ⟨m, none, none⟩ := by
  unfold load
  rcases LState.run L (LState.start h) is with e | ⟨m', _ | f, _ | b⟩ <;> simp [LState.finalize]

theorem load_header {L : LTables} {h : Header} {is : List Inst} {m : Module Inst} (hl : load L h is = .ok m) :
    m.header = some h :=
  run_header (load_ok.1 hl)

end Rspirv.Model
