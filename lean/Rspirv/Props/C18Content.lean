import Rspirv.Props.C18Step
/-!
# C18 — what the lifted functions, blocks and operations *are*

`Props/C18.lean` counts (one operation per result-producing block instruction, one block per block, …). This file says
which. A lifted value depends on the conversion context only through the three id ↦ token maps (`SameIds`, `liftWith_congr`), so
what a loop of `convert` appends can be stated in the context the loop starts in: the operations of a block are, in order,
`lift_op` of its result-producing non-phi non-line instructions; block `k` of a function (`BlocksSpec`) is ⟨the result-type
tokens of its phis, `lift_terminator` of its last instruction⟩, lifted with the ids `(label id, index)` of the blocks before it; a
function (`FunctionsSpec`) keeps the control mask of its `OpFunction`, the token of its result type and these blocks; and the
operations of the converted module are the concatenation of the blocks', function by function.

With `C18_table` (each arm's fields are the grammar operands in order) and `liftFields_req` (a required plain field `j`
carries operand `j`) this is the "operands carried over positionally" clause for every operation of every block.
-/
namespace Rspirv.Props.C18Content
open Rspirv Rspirv.Model Rspirv.Props.C18

/-- the id ↦ token maps agree -/
def SameIds (c c' : LCtx) : Prop := c'.typeIds = c.typeIds ∧ c'.constIds = c.constIds ∧ c'.blockIds = c.blockIds

theorem SameIds.symm {a b : LCtx} (h : SameIds a b) : SameIds b a := ⟨h.1.symm, h.2.1.symm, h.2.2.symm⟩

/-- contexts with the same id maps differ in the five fields no lift of an instruction reads -/
theorem SameIds.eq {c c' : LCtx} (h : SameIds c c') :
    c' = { c with types := c'.types, consts := c'.consts, blocks := c'.blocks, ops := c'.ops, opIds := c'.opIds } := by
  cases c'
  obtain ⟨rfl, rfl, rfl⟩ := h
  rfl

set_option smartUnfolding false in
/-- **a lifted value depends on the context only through the id ↦ token maps** -/
theorem liftWith_congr (T : LiftTables) (c c' : LCtx) (h : SameIds c c') (arms : List LArm) (i : Inst) :
    Model.liftWith T c' arms i = Model.liftWith T c arms i := by
  rw [h.eq]
  -- `applyTransform` alone reads the context, and only these maps; `matchOne`, `matchList`, `matchPairs`, `liftField`, `liftFields`
  -- hand it on as they got it: both sides unfold to one term (smart unfolding would leave the recursive ones folded)
  rfl

theorem liftTerminator_congr (T : LiftTables) (c c' : LCtx) (h : SameIds c c') (i : Inst) :
    liftTerminator T c' i = liftTerminator T c i := by
  unfold liftTerminator
  simp only [liftWith_congr T c c' h]

/-! ### one block -/

theorem liftBlockInsts_content (T : LiftTables) : ∀ (insts : List Inst) (c : LCtx) (args : List LVal) (c' : LCtx)
    (args' : List LVal), liftBlockInsts T c args insts = .ok (c', args') →
    ∃ (ops : List LNode) (toks : List Nat), c'.ops = c.ops ++ ops ∧ args' = args ++ toks.map LVal.tok ∧ SameIds c c' ∧
      c'.types = c.types ∧ c'.consts = c.consts ∧ c'.blocks = c.blocks ∧
      (insts.filter (isOpInst T)).map (fun i => Model.liftWith T c T.op i) = ops.map LRes.ok ∧
      (insts.filter (isPhi T)).map (fun i => i.rtype.bind (lookupId c.typeIds)) = toks.map some := by
  intro insts
  induction insts with
  | nil =>
    intro c args c' args' h
    cases h
    exact ⟨[], [], by simp, by simp, ⟨rfl, rfl, rfl⟩, rfl, rfl, rfl, rfl, rfl⟩
  | cons i rest ih =>
    intro c args c' args' h
    rcases liftBlockInsts_step h with ⟨e1, e2, h'⟩ | ⟨e1, e2, rt, ty, hrt, hty, h'⟩ | ⟨e1, e2, op, id, oty, hw, h'⟩ <;>
      simp only [List.filter_cons, e1, e2, ↓reduceIte, Bool.false_eq_true, List.map_cons]
    · exact ih _ _ _ _ h'
    · obtain ⟨ops, toks, a1, a2, a⟩ := ih _ _ _ _ h'
      exact ⟨ops, ty :: toks, a1, by rw [a2]; simp, by simpa [hrt, hty] using a⟩
    · obtain ⟨ops, toks, a1, a2, a3, a4, a5, a6, a7, a8⟩ := ih _ _ _ _ h'
      refine ⟨op :: ops, toks, by rw [a1]; simp, a2, a3, a4, a5, a6, ?_, a8⟩
      -- the step changes `ops` and `opIds` only, so `a3` … `a6` speak of `c` as they stand, and the operations after this
      -- one are lifted in a context with the same ids
      rw [hw, List.map_cons, ← a7]
      exact congrArg _ (List.map_congr_left fun x _ => (liftWith_congr T c _ (by exact ⟨rfl, rfl, rfl⟩) T.op x).symm)

/-! ### the blocks of a function -/

/-- blocks `bs`, lifted in a context with the ids of `c` in which the blocks before them already have the tokens
`0..n-1`, give the lifted blocks `lbs` and, block by block, the operations `opss` -/
def BlocksSpec (T : LiftTables) : LCtx → Nat → List (Block Inst) → List LBlock → List (List LNode) → Prop
  | _, _, [], [], [] => True
  | c, n, b :: bs, lb :: lbs, ops :: opss =>
    ∃ (last : Inst) (toks : List Nat) (lid : Nat), b.insts.getLast? = some last ∧ liftTerminator T c last = .ok lb.term ∧
      lb.args = toks.map LVal.tok ∧
      (b.insts.filter (isPhi T)).map (fun i => i.rtype.bind (lookupId c.typeIds)) = toks.map some ∧
      (b.insts.filter (isOpInst T)).map (fun i => Model.liftWith T c T.op i) = ops.map LRes.ok ∧
      b.label.bind (·.rid) = some lid ∧
      BlocksSpec T { c with blockIds := (lid, n) :: c.blockIds } (n + 1) bs lbs opss
  | _, _, _, _, _ => False

theorem BlocksSpec_congr (T : LiftTables) {bs : List (Block Inst)} {lbs : List LBlock} {opss : List (List LNode)}
    {c c' : LCtx} {n : Nat} (h : BlocksSpec T c' n bs lbs opss) (hs : SameIds c c') : BlocksSpec T c n bs lbs opss := by
  fun_induction BlocksSpec T c' n bs lbs opss generalizing c with
  | case1 => trivial
  | case2 c' n b bs lb lbs ops opss ih =>
    obtain ⟨last, toks, lid, h1, h2, h3, h4, h5, h6, h7⟩ := h
    simp only [liftTerminator_congr T c c' hs, liftWith_congr T c c' hs, hs.1] at h2 h4 h5
    exact ⟨last, toks, lid, h1, h2, h3, h4, h5, h6, ih lid h7 ⟨hs.1, hs.2.1, congrArg (_ :: ·) hs.2.2⟩⟩
  | case3 => exact h.elim

theorem BlocksSpec_counts (T : LiftTables) (bs : List (Block Inst)) (lbs : List LBlock) (opss : List (List LNode))
    (c : LCtx) (n : Nat) (h : BlocksSpec T c n bs lbs opss) :
    lbs.map (·.args.length) = bs.map (fun b => (b.insts.filter (isPhi T)).length) ∧
    opss.map List.length = bs.map (fun b => (b.insts.filter (isOpInst T)).length) := by
  fun_induction BlocksSpec T c n bs lbs opss with
  | case1 => exact ⟨rfl, rfl⟩
  | case2 c n b bs lb lbs ops opss ih =>
    obtain ⟨last, toks, lid, _, _, h3, h4, h5, _, h7⟩ := h
    have l4 := congrArg List.length h4
    have l5 := congrArg List.length h5
    simp only [List.length_map] at l4 l5
    simp [ih lid h7, h3, l4, l5]
  | case3 => exact h.elim

theorem liftBlocks_content (T : LiftTables) : ∀ (bs : List (Block Inst)) (c : LCtx) (acc : List LBlock) (c' : LCtx)
    (acc' : List LBlock), liftBlocks T c acc bs = .ok (c', acc') →
    ∃ (lbs : List LBlock) (opss : List (List LNode)), acc' = acc ++ lbs ∧ c'.ops = c.ops ++ opss.flatten ∧
      c'.typeIds = c.typeIds ∧ c'.constIds = c.constIds ∧ c'.types = c.types ∧ c'.consts = c.consts ∧
      BlocksSpec T c acc.length bs lbs opss := by
  intro bs
  induction bs with
  | nil =>
    intro c acc c' acc' h
    cases h
    exact ⟨[], [], by simp, by simp, rfl, rfl, rfl, rfl, trivial⟩
  | cons b rest ih =>
    intro c acc c' acc' h
    obtain ⟨c1, args, last, term, lid, hi, hlast, hterm, hlab, h'⟩ := liftBlocks_step h
    obtain ⟨ops, toks, t1, t2, t3, t4, t5, t6, t7, t8⟩ := liftBlockInsts_content T b.insts c [] c1 args hi
    obtain ⟨lbs, opss, a1, a2, a3, a4, a5, a6, a7⟩ := ih _ _ _ _ h'
    refine ⟨⟨args, term⟩ :: lbs, ops :: opss, by rw [a1]; simp, by rw [a2, t1]; simp, a3.trans t3.1,
      a4.trans t3.2.1, a5.trans t4, a6.trans t5, ?_⟩
    refine ⟨last, toks, lid, hlast, liftTerminator_congr T c c1 t3 last ▸ hterm, by simpa using t2, t8, t7, hlab, ?_⟩
    rw [List.length_append] at a7
    exact BlocksSpec_congr T a7 ⟨t3.1, t3.2.1, congrArg (_ :: ·) t3.2.2⟩

/-! ### the functions of a module -/

def FunctionsSpec (T : LiftTables) (c : LCtx) : List (Function Inst) → List LFunction → List (List (List LNode)) → Prop
  | [], [], [] => True
  | f :: fs, lf :: lfs, o :: os =>
    ∃ d arm defn rt, f.def_ = some d ∧ T.function = some arm ∧ Model.liftWith T c [arm] d = .ok defn ∧
      lf.control = (nodeField defn T.nFunctionControl).getD .none ∧ d.rtype = some rt ∧
      lookupId c.typeIds rt = some lf.result ∧
      BlocksSpec T { c with blockIds := [] } 0 f.blocks lf.blocks o ∧ FunctionsSpec T c fs lfs os
  | _, _, _ => False

theorem FunctionsSpec_congr (T : LiftTables) {fs : List (Function Inst)} {lfs : List LFunction}
    {os : List (List (List LNode))} {c c' : LCtx} (h : FunctionsSpec T c' fs lfs os) (hs : SameIds c c') :
    FunctionsSpec T c fs lfs os := by
  fun_induction FunctionsSpec T c' fs lfs os with
  | case1 => trivial
  | case2 f fs lf lfs o os ih =>
    obtain ⟨d, arm, defn, rt, e1, e2, e3, e4, e5, e6, e7, e8⟩ := h
    exact ⟨d, arm, defn, rt, e1, e2, liftWith_congr T c c' hs _ d ▸ e3, e4, e5, hs.1 ▸ e6,
      BlocksSpec_congr T e7 ⟨hs.1, hs.2.1, rfl⟩, ih e8⟩
  | case3 => exact h.elim

theorem liftFunctions_content (T : LiftTables) : ∀ (fs : List (Function Inst)) (c : LCtx) (acc : List LFunction)
    (c' : LCtx) (acc' : List LFunction), c.blockIds = [] → liftFunctions T c acc fs = .ok (c', acc') →
    ∃ (lfs : List LFunction) (os : List (List (List LNode))), acc' = acc ++ lfs ∧
      c'.ops = c.ops ++ (os.map List.flatten).flatten ∧ c'.types = c.types ∧ c'.consts = c.consts ∧
      FunctionsSpec T c fs lfs os := by
  intro fs
  induction fs with
  | nil =>
    intro c acc c' acc' _ h
    cases h
    exact ⟨[], [], by simp, by simp, rfl, rfl, trivial⟩
  | cons f rest ih =>
    intro c acc c' acc' hb0 h
    obtain ⟨d, arm, defn, c1, blocks, start, rt, res, hd, harm, hw, hb, hrt, hres, h'⟩ := liftFunctions_step h
    obtain ⟨_, opss, rfl, b2, b3, b4, b5, b6, b7⟩ := liftBlocks_content T f.blocks _ [] c1 _ hb
    obtain ⟨lfs, os, a1, a2, a3, a4, a5⟩ := ih _ _ _ _ rfl h'
    exact ⟨⟨(nodeField defn T.nFunctionControl).getD .none, res, blocks, start⟩ :: lfs, opss :: os,
      by rw [a1]; simp, by rw [a2, b2]; simp, a3.trans b5, a4.trans b6,
      d, arm, defn, rt, hd, harm, hw, rfl, hrt, b3 ▸ hres, BlocksSpec_congr T b7 ⟨rfl, rfl, rfl⟩,
      FunctionsSpec_congr T a5 ⟨b3, b4, hb0.symm⟩⟩

/-! ### the globals -/

/-- the first loop of `convert` appends one type per type declaration and one constant per constant declaration and
touches nothing else -/
theorem liftGlobals_shape (T : LiftTables) : ∀ (insts : List Inst) (c c' : LCtx), liftGlobals T c insts = .ok c' →
    ∃ ts cs, c'.types = c.types ++ ts ∧ c'.consts = c.consts ++ cs ∧
      ts.length = (insts.filter (isTypeDecl T)).length ∧ cs.length = (insts.filter (isConstDecl T)).length ∧
      c'.ops = c.ops ∧ c'.blockIds = c.blockIds := by
  intro insts
  induction insts with
  | nil =>
    intro c c' h
    cases h
    exact ⟨[], [], by simp, by simp, rfl, rfl, rfl, rfl⟩
  | cons i rest ih =>
    intro c c' h
    obtain ⟨c1, hg, h'⟩ := C18Globals.liftGlobals_cons_ok h
    obtain ⟨ts, cs, a1, a2, a3, a4, a⟩ := ih c1 c' h'
    rcases C18Globals.gstep_cases hg with ⟨v, id, _, _, _, rfl, e1, e2⟩ | ⟨v, id, _, _, _, _, rfl, e1, e2⟩ | ⟨rfl, e1, e2⟩ <;>
      simp only [List.filter_cons, e1, e2, ↓reduceIte, Bool.false_eq_true, List.length_cons]
    · exact ⟨v :: ts, cs, by simp [a1], a2, congrArg (· + 1) a3, a4, a⟩
    · exact ⟨ts, v :: cs, a1, by simp [a2], a3, congrArg (· + 1) a4, a⟩
    · exact ⟨ts, cs, a1, a2, a3, a4, a⟩

/-- **C18 (content).** A successful conversion: after the globals have been lifted into the context `c0`, the functions
of the structured module are, one by one, the `OpFunction`'s control mask, the token of its result type and its blocks,
block `k` being ⟨result-type tokens of its phis, `lift_terminator` of its last instruction⟩ lifted with the earlier
blocks' ids; the operations are the `lift_op` of the result-producing non-phi non-line instructions, function by function,
block by block, in order; types and constants are those of `c0`. -/
theorem C18_content (T : LiftTables) (m : Module Inst) (lm : LModule) (h : convert T m = .ok lm) :
    ∃ (c0 : LCtx) (os : List (List (List LNode))), liftGlobals T LCtx.empty m.typesGlobalValues = .ok c0 ∧
      lm.types = c0.types ∧ lm.consts = c0.consts ∧ lm.ops = (os.map List.flatten).flatten ∧
      FunctionsSpec T c0 m.functions lm.functions os := by
  obtain ⟨c0, c, fns, hd, hg, hf, _, _, e1, e2, e3, rfl⟩ := convert_ok h
  obtain ⟨_, _, _, _, _, _, g5, g6⟩ := liftGlobals_shape T _ _ _ hg
  obtain ⟨lfs, os, f1, f2, f3, f4, f5⟩ := liftFunctions_content T _ _ _ _ _ g6 hf
  simp only [List.nil_append] at f1
  subst f1
  exact ⟨c0, os, hg, e1.trans f3, e2.trans f4, by rw [e3, f2, g5]; rfl, f5⟩

end Rspirv.Props.C18Content
