import Rspirv.Generic.Method
import Rspirv.Generated.Builder
import Rspirv.Generated.Grammar
import Rspirv.Generated.Operands
import Rspirv.Generated.Extracted
import Rspirv.Generated.Findings
import Rspirv.Model.Loader
/-!
# C06 — every instruction-emitting Builder method emits its opcode's grammar, and files it where the loader does

`methods` are the specs of all generated Builder methods, regenerated from the source on every run. Each is judged
against three things that do not come from the same lines: the grammar table (kinds, quantifiers and parameter
order), the loader's classification (extracted reflect predicates, `classify` of `Model/Loader.lean`), and the opcode enumeration.
-/
namespace Rspirv.Props.C06
open Rspirv Rspirv.Model Rspirv.Generated.Builder Rspirv.Generated.Grammar Rspirv.Generated.Operands

/-- Operand variants a context-free kind decodes to, and whether the kind carries value-dependent parameters -/
def kindVariants (k : Nat) : Option (List Nat × Bool) :=
  if k == kind_LiteralSpecConstantOpInteger then some ([v_LiteralSpecConstantOpInteger], false) else
  match kindActs[k]? with
  | some (.elems es) => some (es.map (·.variant), false)
  | some (.maskParams e _) => some ([e.variant], true)
  | some (.enumParams e _) => some ([e.variant], true)
  | _ => none

/-- does a slot realise one logical operand `(kind, quantifier)`? -/
def slotMatches (op : Nat × Nat) (s : Slot) : Bool :=
  if op.1 == kind_PairLiteralIntegerIdRef then
    -- `(dr::Operand, Word)` pairs: the literal is passed as an operand because its width depends on context
    match s with
    | .pairs none (some b) _ => op.2 == 2 && b == v_IdRef
    | _ => false
  else
  match kindVariants op.1, s with
  | some ([v], _), .one v' _ => op.2 == 0 && v == v'
  | some ([v], _), .optS v' _ => op.2 == 1 && v == v'
  | some ([v], _), .many v' _ => op.2 == 2 && v == v'
  | some ([a, b], _), .pairs (some a') (some b') _ => op.2 == 2 && a == a' && b == b'
  | _, _ => false

def slotParam : Slot → Nat
  | .one _ p => p | .optS _ p => p | .many _ p => p | .raw p => p | .pairs _ _ p => p

def isRaw : Slot → Bool
  | .raw _ => true
  | _ => false

def zipMatch : List (Nat × Nat) → List Slot → Bool
  | [], [] => true
  | o :: os, s :: ss => slotMatches o s && zipMatch os ss
  | _, _ => false

def strictIncNat : List Nat → Bool := strictInc

/-- `LTables` whose predicates answer from one row of the extracted reflect table: `classify (rowL bits) op` is the
class the loader gives `op` when `bits` are the reflect predicates' answers on `op` (classify applies the predicates
to the opcode itself only) -/
def rowL (bits : Nat) : LTables :=
  { opCapability := op_Capability, opExtension := op_Extension, opExtInstImport := op_ExtInstImport
    opMemoryModel := op_MemoryModel, opEntryPoint := op_EntryPoint, opExecutionMode := op_ExecutionMode
    opExecutionModeId := op_ExecutionModeId, opString := op_String, opSourceExtension := op_SourceExtension
    opSource := op_Source, opSourceContinued := op_SourceContinued, opName := op_Name, opMemberName := op_MemberName
    opModuleProcessed := op_ModuleProcessed, opVariable := op_Variable, opUndef := op_Undef
    opFunction := op_Function, opFunctionEnd := op_FunctionEnd, opFunctionParameter := op_FunctionParameter
    opLabel := op_Label
    isLocationDebug := fun _ => bits.testBit 0, isAnnotation := fun _ => bits.testBit 3, isType := fun _ => bits.testBit 4
    isConstant := fun _ => bits.testBit 5, isBlockTerminator := fun _ => bits.testBit 11 }

/-- the sink of the method agrees with where the loader files an instruction of that opcode -/
def sinkAgrees (bits : Nat) (m : MethodSpec) : Bool :=
  match classify (rowL bits) m.opcode with
  | .sect k => (m.sink == 0 && m.sect == k) || (m.sink == 3 && k == 10)
  | .term => m.sink == 2
  | .other => m.sink == 1
  | _ => false            -- OpLine/OpNoLine, OpVariable, OpUndef, OpFunction.., OpLabel are hand-written methods

/-- one method against its grammar entry `e` and the reflect bits of its opcode -/
def methodOk (e : Entry) (bits : Nat) (m : MethodSpec) : Bool :=
  let hasRT := e.ops.any (fun o => o.1 == kind_IdResultType)
  let hasRID := e.ops.any (fun o => o.1 == kind_IdResult)
  let ops := e.ops.filter (fun o => o.1 != kind_IdResultType && o.1 != kind_IdResult)
  let parameterised := ops.any (fun o => match kindVariants o.1 with | some (_, p) => p | none => false)
  let slots := if parameterised then m.slots.filter (fun s => !isRaw s) else m.slots
  -- result type / result id handled by the stated rule
  (m.rtype.isSome == hasRT) && ((m.idKind != 0) == hasRID) &&
  -- kinds and quantifiers position by position; `additional_params` last, exactly when some kind is parameterised
  zipMatch ops slots &&
  (if parameterised then (m.slots.getLast?.map isRaw == some true) && (m.slots.filter isRaw).length == 1
   else (m.slots.filter isRaw).isEmpty) &&
  -- slot i is fed by the i-th operand parameter: parameter indices strictly increasing
  strictIncNat (m.slots.map slotParam) &&
  sinkAgrees bits m

/-- name codes of methods recorded as known findings (C06:method:<name>) still present in the tree -/
def knownBad : List Nat := Rspirv.Generated.Findings.c06KnownMethods

/-- merge-walk: the grammar table (with the reflect row of each entry) is ascending by opcode and so is each method
group, so every method meets its entry without a lookup. Fails if a method's opcode has no entry. -/
def walk : Nat → List (Entry × (Nat × Nat)) → List MethodSpec → Bool
  | 0, _, ms => ms.isEmpty
  | _ + 1, _, [] => true
  | _ + 1, [], _ :: _ => false
  | f + 1, (e, r) :: es, m :: ms =>
    if e.opcode == m.opcode then
      (r.1 == e.opcode && (methodOk e r.2 m || knownBad.contains m.name)) && walk f ((e, r) :: es) ms
    else walk f es (m :: ms)

def joined : List (Entry × (Nat × Nat)) := coreTable.zip Rspirv.Generated.Extracted.reflectTable

/-- wrapper methods `x(args) = x_id(None, args)`: the callee is the next-named dedup method with the id first -/
def wrapperOk (m : MethodSpec) : Bool :=
  match methods.find? (fun c => c.name == m.wrapperOf) with
  | some c => c.idKind == 3 && c.idParam == 0 && c.params.drop 1 == m.params
  | none => false

def allMethodsOk : Bool :=
  methodGroups.all (fun g => walk (joined.length + g.length + 1) joined g) &&
  decide ((methodGroups.map List.length).sum + wrappers.length = methods.length)

theorem methods_ok : allMethodsOk = true := by decide +kernel

theorem wrappers_ok : wrappers.all wrapperOk = true := by decide +kernel

/-- soundness of the merge-walk: every method of the walked list meets an entry of the table with its own opcode and
passes `methodOk` against it (or is a recorded finding) -/
theorem walk_sound : ∀ (f : Nat) (es : List (Entry × (Nat × Nat))) (ms : List MethodSpec), walk f es ms = true →
    ∀ m ∈ ms, ∃ p ∈ es, p.1.opcode = m.opcode ∧ p.2.1 = m.opcode ∧ (methodOk p.1 p.2.2 m = true ∨ knownBad.contains m.name = true) := by
  intro f es ms
  fun_induction walk f es ms with
  | case1 ms => intro h m hm; rw [List.isEmpty_iff.1 h] at hm; cases hm
  | case2 => intro _ m hm; cases hm
  | case3 => intro h; cases h
  | case4 f e r es m ms he ih =>
    intro h m' hm'
    simp only [Bool.and_eq_true, Bool.or_eq_true, beq_iff_eq] at h
    obtain ⟨⟨hr, hok⟩, hrest⟩ := h
    rcases List.mem_cons.1 hm' with rfl | hm'
    · exact ⟨(e, r), List.mem_cons_self, by simpa using he, by rw [hr]; simpa using he, hok⟩
    · exact ih hrest m' hm'
  | case5 f e r es m ms he ih =>
    intro h m' hm'
    obtain ⟨p, hp, rest⟩ := ih h m' hm'
    exact ⟨p, List.mem_cons_of_mem _ hp, rest⟩

/-- **C06 (methods).** Every generated instruction-emitting Builder method (≈1100, minus recorded findings): its
opcode has a grammar entry; it takes a result type / allocates a result id exactly when the entry has one; its operand
slots match the entry's operands kind by kind and quantifier by quantifier, in grammar order, each fed by the
corresponding parameter in signature order; value-dependent parameters are passed through a single trailing
`additional_params`; and it files the instruction where the loader files that opcode (section, block, or
block-terminating) according to the reflect predicates' answers on that opcode. -/
theorem C06_methods (g : List MethodSpec) (hg : g ∈ methodGroups) (m : MethodSpec) (hm : m ∈ g)
    (hk : knownBad.contains m.name = false) :
    ∃ p ∈ joined, p.1.opcode = m.opcode ∧ p.2.1 = m.opcode ∧ methodOk p.1 p.2.2 m = true := by
  have h := methods_ok
  simp only [allMethodsOk, Bool.and_eq_true, List.all_eq_true] at h
  obtain ⟨p, hp, h1, h2, h3⟩ := walk_sound _ _ _ (h.1 g hg) m hm
  refine ⟨p, hp, h1, h2, ?_⟩
  rcases h3 with h3 | h3
  · exact h3
  · rw [hk] at h3; cases h3

/-- a method's sink and the loader's class `c` of its opcode agree -/
def SinkIs (m : MethodSpec) (c : Cls) : Prop :=
  (m.sink = 0 ∧ c = .sect m.sect) ∨ (m.sink = 3 ∧ c = .sect 10) ∨ (m.sink = 2 ∧ c = .term) ∨ (m.sink = 1 ∧ c = .other)

theorem sinkAgrees_cases {bits : Nat} {m : MethodSpec} (h : sinkAgrees bits m = true) :
    SinkIs m (classify (rowL bits) m.opcode) := by
  unfold sinkAgrees at h
  split at h
  · rename_i k hc
    simp only [Bool.or_eq_true, Bool.and_eq_true, beq_iff_eq] at h
    rcases h with ⟨h1, rfl⟩ | ⟨h1, rfl⟩
    · exact Or.inl ⟨h1, hc⟩
    · exact Or.inr (Or.inl ⟨h1, hc⟩)
  · exact Or.inr (Or.inr (Or.inl ⟨by simpa using h, ‹_›⟩))
  · exact Or.inr (Or.inr (Or.inr ⟨by simpa using h, ‹_›⟩))
  · cases h

theorem methodOk_sink {e : Entry} {bits : Nat} {m : MethodSpec} (h : methodOk e bits m = true) :
    sinkAgrees bits m = true := by
  unfold methodOk at h
  simp only [Bool.and_eq_true] at h
  exact h.2

/-- **C16 clause / C06.** The Builder ends a block for exactly the opcodes the block-terminator predicate accepts: a
generated method sinks into `end_block` iff the loader classifies its opcode (by the extracted predicates) as a
terminator. -/
theorem C06_terminators (g : List MethodSpec) (hg : g ∈ methodGroups) (m : MethodSpec) (hm : m ∈ g)
    (hk : knownBad.contains m.name = false) :
    ∃ p ∈ joined, p.2.1 = m.opcode ∧ (m.sink = 2 ↔ classify (rowL p.2.2) m.opcode = .term) := by
  obtain ⟨p, hp, _, h2, hok⟩ := C06_methods g hg m hm hk
  refine ⟨p, hp, h2, ?_⟩
  rcases sinkAgrees_cases (methodOk_sink hok) with ⟨hs, hc⟩ | ⟨hs, hc⟩ | ⟨hs, hc⟩ | ⟨hs, hc⟩ <;> simp [hs, hc]

/-- every block-terminator opcode has a generated method that ends the block -/
def terminatorsCovered : Bool :=
  Rspirv.Generated.Extracted.reflectTable.all (fun r =>
    !(r.2.testBit 11) || methods.any (fun m => m.opcode == r.1 && m.sink == 2))

theorem terminators_covered : terminatorsCovered = true := by decide +kernel

example : methods.length > 1000 ∧ methodGroups.length ≤ 8 := by decide +kernel

end Rspirv.Props.C06
