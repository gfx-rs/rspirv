import Rspirv.Props.C18
/-!
# C18 — the contents of the lifted types and constants

`liftGlobals_counts` (C18.lean) says how many types and constants the first loop of `convert` produces. Here what they are and
what the tokens mean. The loop is the iteration of `gstep` (C18Step.lean), so a run over `pre ++ i :: post` can be cut before and
after `i`; along a run every id in the type (constant) map designates an existing entry and different ids different entries
(`IdsInv`), and entries and id ↦ token assignments, once made, stay (`Extends`). Hence the entry appended for a declaration `i`
is `lift_type` (`lift_constant`) of `i` **in the context of the declarations before it**, it sits at the next free token — one
token per declaration, in declaration order — and in the final context the result id of `i` designates exactly that token. With
`liftWith_congr` (the value depends on the context only through the id ↦ token maps), `C18_table` and `liftFields_req` this is the
clause "every operand carried over positionally, type and constant ids replaced by tokens of the referenced entry" for types and
constants.
-/
namespace Rspirv.Props.C18Globals
open Rspirv Rspirv.Model Rspirv.Props.C18

theorem liftGlobals_append (T : LiftTables) : ∀ (pre post : List Inst) (c : LCtx),
    liftGlobals T c (pre ++ post) = andThen (liftGlobals T c pre) (fun c1 => liftGlobals T c1 post)
  | [], post, c => rfl
  | i :: pre, post, c => by
    rw [List.cons_append, liftGlobals_step, liftGlobals_step]
    cases gstep T c i with
    | ok c1 => exact liftGlobals_append T pre post c1
    | _ => rfl

/-- a successful run over `pre ++ post` is a successful run over `pre` followed by one over `post` -/
theorem liftGlobals_split (T : LiftTables) (pre post : List Inst) (c c' : LCtx)
    (h : liftGlobals T c (pre ++ post) = .ok c') :
    ∃ c1, liftGlobals T c pre = .ok c1 ∧ liftGlobals T c1 post = .ok c' :=
  andThen_ok (liftGlobals_append T pre post c ▸ h)

/-! ### ids designate entries; assignments are permanent -/

/-- every id designates an existing entry, and different ids different entries -/
def MapInv (ids : List (Nat × Nat)) (n : Nat) : Prop :=
  (∀ id k, lookupId ids id = some k → k < n) ∧
  (∀ id1 id2 k, lookupId ids id1 = some k → lookupId ids id2 = some k → id1 = id2)

def IdsInv (c : LCtx) : Prop := MapInv c.typeIds c.types.length ∧ MapInv c.constIds c.consts.length

section
variable {m : List (Nat × Nat)} {id n x k : Nat}

/-- what is found under `x` after `id ↦ n` was entered: `n` if `x` is `id`, else what was there before -/
theorem lookupId_cons : lookupId ((id, n) :: m) x = some k ↔ id = x ∧ n = k ∨ id ≠ x ∧ lookupId m x = some k := by
  by_cases e : id = x <;> simp [lookupId, e]

/-- an id entered for the first time hides no assignment made before -/
theorem lookupId_push (n : Nat) (hn : lookupId m id = none) (hx : lookupId m x = some k) :
    lookupId ((id, n) :: m) x = some k :=
  lookupId_cons.2 (.inr ⟨(fun e => by rw [e, hx] at hn; cases hn), hx⟩)

theorem mapInv_push (id : Nat) (h : MapInv m n) : MapInv ((id, n) :: m) (n + 1) := by
  refine ⟨fun x k hk => ?_, fun x y k hx hy => ?_⟩
  · rcases lookupId_cons.1 hk with ⟨_, rfl⟩ | ⟨_, hk⟩
    · exact Nat.lt_succ_self n
    · exact Nat.lt_succ_of_lt (h.1 x k hk)
  -- an old id never designates the new entry `n`
  · rcases lookupId_cons.1 hx with ⟨rfl, rfl⟩ | ⟨_, hx⟩ <;> rcases lookupId_cons.1 hy with ⟨rfl, e⟩ | ⟨_, hy⟩
    · rfl
    · exact absurd (h.1 y _ hy) (Nat.lt_irrefl _)
    · exact absurd (h.1 x _ hx) (e ▸ Nat.lt_irrefl _)
    · exact h.2 x y k hx hy

end

theorem idsInv_empty : IdsInv LCtx.empty := by
  refine ⟨⟨?_, ?_⟩, ⟨?_, ?_⟩⟩ <;> intros <;> simp_all [LCtx.empty, lookupId]

theorem gstep_inv (T : LiftTables) (c : LCtx) (i : Inst) (c1 : LCtx) (h : GStep T c i c1) (hi : IdsInv c) : IdsInv c1 := by
  cases h with
  | type v id => exact ⟨by simpa using mapInv_push id hi.1, hi.2⟩
  | const v id => exact ⟨hi.1, by simpa using mapInv_push id hi.2⟩
  | skip => exact hi

/-- what a later context keeps of an earlier one -/
structure Extends (c c' : LCtx) : Prop where
  types : ∀ k, k < c.types.length → c'.types[k]? = c.types[k]?
  consts : ∀ k, k < c.consts.length → c'.consts[k]? = c.consts[k]?
  typeIds : ∀ id k, lookupId c.typeIds id = some k → lookupId c'.typeIds id = some k
  constIds : ∀ id k, lookupId c.constIds id = some k → lookupId c'.constIds id = some k
  tlen : c.types.length ≤ c'.types.length
  clen : c.consts.length ≤ c'.consts.length

theorem Extends.refl (c : LCtx) : Extends c c :=
  ⟨fun _ _ => rfl, fun _ _ => rfl, fun _ _ h => h, fun _ _ h => h, Nat.le_refl _, Nat.le_refl _⟩

theorem Extends.trans {a b c : LCtx} (h1 : Extends a b) (h2 : Extends b c) : Extends a c :=
  ⟨fun k hk => (h2.types k (Nat.lt_of_lt_of_le hk h1.tlen)).trans (h1.types k hk),
   fun k hk => (h2.consts k (Nat.lt_of_lt_of_le hk h1.clen)).trans (h1.consts k hk),
   fun id k h => h2.typeIds id k (h1.typeIds id k h), fun id k h => h2.constIds id k (h1.constIds id k h),
   Nat.le_trans h1.tlen h2.tlen, Nat.le_trans h1.clen h2.clen⟩

theorem gstep_mono {T : LiftTables} {c c1 : LCtx} {i : Inst} (h : GStep T c i c1) : Extends c c1 := by
  cases h with
  | type v id _ _ hn =>
    exact ⟨fun k hk => by simp only [List.getElem?_append_left hk], fun _ _ => rfl, fun _ _ => lookupId_push _ hn,
      fun _ _ h => h, by simp, Nat.le_refl _⟩
  | const v id _ _ _ hn =>
    exact ⟨fun _ _ => rfl, fun k hk => by simp only [List.getElem?_append_left hk], fun _ _ h => h,
      fun _ _ => lookupId_push _ hn, Nat.le_refl _, by simp⟩
  | skip => exact Extends.refl c

theorem liftGlobals_inv (T : LiftTables) : ∀ (insts : List Inst) (c c' : LCtx), liftGlobals T c insts = .ok c' →
    IdsInv c → IdsInv c' ∧ Extends c c' := by
  intro insts
  induction insts with
  | nil =>
    intro c c' h hi
    cases h
    exact ⟨hi, Extends.refl c⟩
  | cons i rest ih =>
    intro c c' h hi
    obtain ⟨c1, hg, h'⟩ := liftGlobals_cons_ok h
    have hs := gstep_ok T c i c1 hg
    obtain ⟨r1, r2⟩ := ih c1 c' h' (gstep_inv T c i c1 hs hi)
    exact ⟨r1, (gstep_mono hs).trans r2⟩

/-! ### the entry of a declaration -/

theorem liftGlobals_at {T : LiftTables} {pre post : List Inst} {i : Inst} {c c' : LCtx} (hi : IdsInv c)
    (h : liftGlobals T c (pre ++ i :: post) = .ok c') :
    ∃ c1 c2, liftGlobals T c pre = .ok c1 ∧ IdsInv c1 ∧ Extends c c1 ∧ Extends c1 c' ∧ gstep T c1 i = .ok c2 ∧
      IdsInv c' ∧ Extends c2 c' := by
  obtain ⟨c1, h1, h2⟩ := liftGlobals_split T pre (i :: post) c c' h
  obtain ⟨inv1, ext1⟩ := liftGlobals_inv T pre c c1 h1 hi
  obtain ⟨c2, hg, h3⟩ := liftGlobals_cons_ok h2
  have hs := gstep_ok T c1 i c2 hg
  obtain ⟨inv2, ext2⟩ := liftGlobals_inv T post c2 c' h3 (gstep_inv T c1 i c2 hs inv1)
  exact ⟨c1, c2, h1, inv1, ext1, (gstep_mono hs).trans ext2, hg, inv2, ext2⟩

/-- **C18 (content of a type).** -/
theorem C18_type_at (T : LiftTables) (pre post : List Inst) (i : Inst) (c c' : LCtx) (hi : IdsInv c)
    (h : liftGlobals T c (pre ++ i :: post) = .ok c') (id : Nat) (hr : i.rid = some id) (v : LNode) :
    ∃ c1, liftGlobals T c pre = .ok c1 ∧ IdsInv c1 ∧ Extends c c1 ∧ Extends c1 c' ∧
      (liftWith T c1 T.type_ i = .ok v →
        c'.types[c1.types.length]? = some v ∧ lookupId c'.typeIds id = some c1.types.length ∧
        ∀ id', lookupId c'.typeIds id' = some c1.types.length → id' = id) := by
  obtain ⟨c1, c2, h1, inv1, ext1, ext', hg, inv2, ext2⟩ := liftGlobals_at hi h
  refine ⟨c1, h1, inv1, ext1, ext', fun hv => ?_⟩
  -- with the lifted type and the result id known, the step is the one that appends `v` under `id`
  simp only [gstep, hv, hr] at hg
  split at hg <;> cases hg
  have e2 := ext2.typeIds id c1.types.length (by simp [lookupId_cons])
  exact ⟨(ext2.types c1.types.length (by simp)).trans (by simp), e2, fun id' h' => inv2.1.2 id' id _ h' e2⟩

/-- **C18 (content of a constant).** -/
theorem C18_const_at (T : LiftTables) (pre post : List Inst) (i : Inst) (c c' : LCtx) (hi : IdsInv c)
    (h : liftGlobals T c (pre ++ i :: post) = .ok c') (id : Nat) (hr : i.rid = some id) (v : LNode) :
    ∃ c1, liftGlobals T c pre = .ok c1 ∧ IdsInv c1 ∧ Extends c c1 ∧ Extends c1 c' ∧
      (liftWith T c1 T.type_ i = .err .wrongOpcode → liftConstant T c1 i = .ok v →
        c'.consts[c1.consts.length]? = some v ∧ lookupId c'.constIds id = some c1.consts.length ∧
        ∀ id', lookupId c'.constIds id' = some c1.consts.length → id' = id) := by
  obtain ⟨c1, c2, h1, inv1, ext1, ext', hg, inv2, ext2⟩ := liftGlobals_at hi h
  refine ⟨c1, h1, inv1, ext1, ext', fun hw hv => ?_⟩
  simp only [gstep, hw, hv, hr] at hg
  split at hg <;> cases hg
  have e2 := ext2.constIds id c1.consts.length (by simp [lookupId_cons])
  exact ⟨(ext2.consts c1.consts.length (by simp)).trans (by simp), e2, fun id' h' => inv2.2.2 id' id _ h' e2⟩

/-- **C18 (a reference resolves to the referenced declaration).** In a successful run, an id that the context of a
later declaration maps to token `k` is the result id of the declaration whose entry sits at `k` in the final module —
tokens are never reassigned and entries never overwritten. -/
theorem C18_reference (T : LiftTables) (insts : List Inst) (c' : LCtx)
    (h : liftGlobals T LCtx.empty insts = .ok c') (pre post : List Inst) (hsplit : insts = pre ++ post) :
    ∃ c1, liftGlobals T LCtx.empty pre = .ok c1 ∧
      (∀ id k, lookupId c1.typeIds id = some k →
        lookupId c'.typeIds id = some k ∧ k < c1.types.length ∧ c'.types[k]? = c1.types[k]?) ∧
      (∀ id k, lookupId c1.constIds id = some k →
        lookupId c'.constIds id = some k ∧ k < c1.consts.length ∧ c'.consts[k]? = c1.consts[k]?) := by
  subst hsplit
  obtain ⟨c1, h1, h2⟩ := liftGlobals_split T pre post _ c' h
  obtain ⟨inv1, _⟩ := liftGlobals_inv T pre _ c1 h1 idsInv_empty
  obtain ⟨_, ext⟩ := liftGlobals_inv T post c1 c' h2 inv1
  refine ⟨c1, h1, ?_, ?_⟩
  · intro id k hk
    have hlt := inv1.1.1 id k hk
    exact ⟨ext.typeIds id k hk, hlt, ext.types k hlt⟩
  · intro id k hk
    have hlt := inv1.2.1 id k hk
    exact ⟨ext.constIds id k hk, hlt, ext.consts k hlt⟩

end Rspirv.Props.C18Globals
