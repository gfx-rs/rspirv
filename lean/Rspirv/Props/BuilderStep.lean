import Rspirv.Model.Builder
/-!
# What the pieces of `BState.step` do

Equations for the helpers of the Builder model (`insertAt`, `updBlock`, `allocId`, `insertIntoBlock`, `finish`) and the description
`ModStep` of what a call can do to the module (`Rspirv.Props.C12.step_facts` gives one for every call). The proofs about
`BState.step` in C12, C13 and C06Round unfold `step`, not the helpers: they go through these equations (one exception:
`C12.insertAt_isSome_of_ipOk`, stated with C12's `ipOk`, unfolds `insertAt`).
-/

namespace Rspirv.Props.C06Emit
open Rspirv Rspirv.Model

/-- the instruction(s) a call can add, with the result id the builder would hand out in state `s` -/
def emitted (B : BTables) (s : BState) : Call → List Inst
  | .beginFunction rt fid control ftype =>
    [⟨B.opFunction, some rt, some (fid.getD s.nextId), [.w B.vFunctionControl control, .w B.vIdRef ftype]⟩]
  | .endFunction => [⟨B.opFunctionEnd, none, none, []⟩]
  | .functionParameter rt => [⟨B.opFunctionParameter, some rt, some s.nextId, []⟩]
  | .beginBlock label => [⟨B.opLabel, none, some (label.getD s.nextId), []⟩]
  | .blockInst _ opcode rtype rule ops => [⟨opcode, rtype, (allocId s rule).2, ops⟩]
  | .terminator _ opcode ops => [⟨opcode, none, none, ops⟩]
  | .moduleInst _ opcode rtype rule ops => [⟨opcode, rtype, (allocId s rule).2, ops⟩]
  | .varUndef opcode rt rid ops => [⟨opcode, some rt, some (rid.getD s.nextId), ops⟩]
  | .lineLike opcode ops => [⟨opcode, none, none, ops⟩]
  | .typeRequest opcode rid ops => [⟨opcode, none, some (rid.getD s.nextId), ops⟩]
  | .insertTGV _ i => [i]
  | .insertRaw _ i => [i]
  | _ => []

end Rspirv.Props.C06Emit

namespace Rspirv.Model

theorem insertAt_eq_some {α} {l l' : List α} {ip : InsertPoint} {x : α} (h : insertAt l ip x = some l') :
    ∃ n, n ≤ l.length ∧ l' = l.take n ++ x :: l.drop n := by
  have key : ∀ n, vecInsert l n x = some l' → ∃ n, n ≤ l.length ∧ l' = l.take n ++ x :: l.drop n := by
    intro n hn
    unfold vecInsert at hn
    split at hn
    · exact ⟨n, ‹_›, by simpa using (Option.some.inj hn).symm⟩
    · cases hn
  cases ip with
  | end_ => exact ⟨l.length, Nat.le_refl _, by simpa [insertAt] using h.symm⟩
  | begin => exact key 0 h
  | fromBegin n => exact key n h
  | fromEnd n =>
    simp only [insertAt] at h
    split at h
    · exact key _ h
    · cases h

theorem mem_insertAt {α} {l l' : List α} {ip : InsertPoint} {x y : α} (h : insertAt l ip x = some l') :
    y ∈ l' ↔ y ∈ l ∨ y = x := by
  obtain ⟨n, _, rfl⟩ := insertAt_eq_some h
  constructor
  · intro hy
    rcases List.mem_append.1 hy with hy | hy
    · exact Or.inl (List.mem_of_mem_take hy)
    · rcases List.mem_cons.1 hy with hy | hy
      · exact Or.inr hy
      · exact Or.inl (List.mem_of_mem_drop hy)
  · intro hy
    rw [← List.take_append_drop n l] at hy
    simp only [List.mem_append, List.mem_cons] at hy ⊢
    rcases hy with (hy | hy) | hy
    · exact Or.inl hy
    · exact Or.inr (Or.inr hy)
    · exact Or.inr (Or.inl hy)

theorem insertAt_end {α} (l : List α) {ip : InsertPoint} (x : α) (h : ip = .end_ ∨ ip = .fromEnd 0) :
    insertAt l ip x = some (l ++ [x]) := by
  rcases h with rfl | rfl
  · rfl
  · simp [insertAt, vecInsert]

theorem updBlock_eq_some {m m' : Module Inst} {f b : Nat} {g : Block Inst → Option (Block Inst)} :
    updBlock m f b g = some m' ↔ ∃ fn blk blk', m.functions[f]? = some fn ∧ fn.blocks[b]? = some blk ∧ g blk = some blk' ∧
      m' = { m with functions := m.functions.set f { fn with blocks := fn.blocks.set b blk' } } := by
  constructor
  · intro h
    unfold updBlock at h
    split at h
    · cases h
    · split at h
      · cases h
      · split at h
        · cases h
        · cases h; exact ⟨_, _, _, ‹_›, ‹_›, ‹_›, rfl⟩
  · rintro ⟨fn, blk, blk', hf, hb, hg, rfl⟩
    simp only [updBlock, hf, hb, hg]

theorem allocId_eq (s : BState) (r : IdRule) :
    ∃ n, allocId s r = ({ s with nextId := n }, (allocId s r).2) ∧
      (n = s.nextId ∨ n = s.nextId + 1 ∧ (allocId s r).2 = some s.nextId) := by
  cases r with
  | none => exact ⟨_, rfl, Or.inl rfl⟩
  | fresh => exact ⟨_, rfl, Or.inr ⟨rfl, rfl⟩⟩
  | given o =>
    cases o with
    | none => exact ⟨_, rfl, Or.inr ⟨rfl, rfl⟩⟩
    | some v => exact ⟨_, rfl, Or.inl rfl⟩

/-- the three outcomes of `insert_into_block`: nothing selected, an index out of range, or the selected block updated -/
theorem insertIntoBlock_eq (s : BState) (ip : InsertPoint) (i : Inst) :
    ((s.selFn = none ∨ s.selBlk = none) ∧ insertIntoBlock s ip i = (s, .err (.detachedInstruction i.opcode))) ∨
    ∃ f b, s.selFn = some f ∧ s.selBlk = some b ∧
      ((updBlock s.module f b (fun blk => (insertAt blk.insts ip i).map (fun l => { blk with insts := l })) = none ∧
          insertIntoBlock s ip i = (s, .panic "insert_into_block: index")) ∨
        ∃ m', updBlock s.module f b (fun blk => (insertAt blk.insts ip i).map (fun l => { blk with insts := l })) = some m' ∧
          insertIntoBlock s ip i = ({ s with module := m' }, .unit)) := by
  unfold insertIntoBlock
  cases hf : s.selFn with
  | none => exact Or.inl ⟨Or.inl rfl, rfl⟩
  | some f =>
    cases hb : s.selBlk with
    | none => exact Or.inl ⟨Or.inr rfl, rfl⟩
    | some b =>
      refine Or.inr ⟨f, b, rfl, rfl, ?_⟩
      cases hu : updBlock s.module f b (fun blk => (insertAt blk.insts ip i).map (fun l => { blk with insts := l })) with
      | none => exact Or.inl ⟨rfl, by simp only [hu]⟩
      | some m' => exact Or.inr ⟨m', rfl, by simp only [hu]⟩

/-- `variable` / `undef` once the id is chosen: the instruction goes to the end of the selected block, or to section 10 when no
block is selected -/
theorem BState.step_varUndef (B : BTables) (s : BState) (op rt : Nat) (rid : Option Nat) (ops : List Operand) :
    ∃ n, (n = s.nextId ∨ n = s.nextId + 1) ∧ s.step B (.varUndef op rt rid ops) =
      match s.selFn, s.selBlk with
      | some f, some b =>
        match updBlock s.module f b
          (fun blk => some { blk with insts := blk.insts ++ [⟨op, some rt, some (rid.getD s.nextId), ops⟩] }) with
        | some m => (⟨m, n, s.selFn, s.selBlk⟩, .id (rid.getD s.nextId))
        | none => (⟨s.module, n, s.selFn, s.selBlk⟩, .panic "variable: index")
      | _, _ =>
        (⟨s.module.push 10 ⟨op, some rt, some (rid.getD s.nextId), ops⟩, n, s.selFn, s.selBlk⟩, .id (rid.getD s.nextId)) := by
  cases rid
  · exact ⟨_, Or.inr rfl, rfl⟩
  · exact ⟨_, Or.inl rfl, rfl⟩

/-- `module()` fixes the bound up on the header there is or on the default one (`ModStep.version` names the same header) -/
theorem BState.finish_eq (B : BTables) (s : BState) : s.finish B =
    { s.module with header := some { (s.module.header.getD ⟨B.magic, B.defaultVersion, 0x000f0000, 0, 0⟩) with bound := s.nextId } } := by
  unfold BState.finish
  cases s.module.header <;> rfl

/-! ### what a call does to the module

Every call leaves the module alone or makes one small change to it. `ModStep B m m' x`: `m'` is `m` after such a change, and
`x` lists the instructions the change may have brought in. That calls only add what they emit (`ModStep.adds`, in C06Mem.lean),
that functions and blocks never disappear (`ModStep.grows`, in C12.lean) and that only `set_version` touches the header
(`ModStep.hdrOk`, in C06Round.lean) are read off its six cases. -/

inductive FnStep (fn : Function Inst) : Function Inst → List Inst → Prop
  | end_ (e : Inst) : FnStep fn { fn with end_ := some e } [e]
  | param (p : Inst) : FnStep fn { fn with params := fn.params ++ [p] } [p]
  | block (b : Block Inst) : FnStep fn { fn with blocks := fn.blocks ++ [b] } (b.label.toList ++ b.insts)
  | insts {k : Nat} {blk : Block Inst} (l x : List Inst) : fn.blocks[k]? = some blk → (∀ i ∈ l, i ∈ blk.insts ∨ i ∈ x) →
      FnStep fn { fn with blocks := fn.blocks.set k { blk with insts := l } } x

inductive ModStep (B : BTables) (m : Module Inst) : Module Inst → List Inst → Prop
  | same (x : List Inst) : ModStep B m m x
  | push (k : Nat) (i : Inst) : ModStep B m (m.push k i) [i]
  | newFn (d : Inst) : ModStep B m { m with functions := m.functions ++ [⟨some d, none, [], []⟩] } [d]
  | inFn {j : Nat} {fn : Function Inst} (fn' : Function Inst) (x : List Inst) : m.functions[j]? = some fn → FnStep fn fn' x →
      ModStep B m { m with functions := m.functions.set j fn' } x
  | tgv (l : List Inst) (i : Inst) : (∀ y ∈ l, y ∈ m.typesGlobalValues ∨ y = i) →
      ModStep B m { m with typesGlobalValues := l } [i]
  /-- `set_version`, on the header there is or on the one `module()` would make -/
  | version (h : Header) (major minor : Nat) : h = m.header.getD ⟨B.magic, B.defaultVersion, 0x000f0000, 0, 0⟩ →
      ModStep B m { m with header := some { h with version := major % 256 * 65536 + minor % 256 * 256 } } []

theorem ModStep.of_updBlock {B : BTables} {m m' : Module Inst} {f b : Nat} {g : Block Inst → Option (Block Inst)} {x : List Inst}
    (h : updBlock m f b g = some m')
    (hg : ∀ blk blk', g blk = some blk' → blk'.label = blk.label ∧ ∀ i ∈ blk'.insts, i ∈ blk.insts ∨ i ∈ x) :
    ModStep B m m' x := by
  obtain ⟨fn, blk, blk', hf, hb, hgb, rfl⟩ := updBlock_eq_some.1 h
  obtain ⟨hl, hi⟩ := hg blk blk' hgb
  have : blk' = { blk with insts := blk'.insts } := by rw [← hl]
  rw [this]
  exact .inFn _ _ hf (.insts _ _ hb hi)

end Rspirv.Model
