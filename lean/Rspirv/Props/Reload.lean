import Rspirv.Props.C01
import Rspirv.Props.Canon
/-!
# Canonical modules are fixed points of traverse-then-load

Feeding the loader with the all-instructions traversal of a canonical module (`Canon`, `Props/Canon.lean`) reconstructs the
module field for field (`load_canon`: the run is put together from the constructors of `Step`, section by section and
function by function), and every module the loader returns is canonical (`canon_of_load`: an invariant of accepted steps).
Hence loading the traversal of a loaded module gives the same module again (`C01_reload`). A canonical function is in
particular a finished one, which is C05's shape theorem, at the end of the file.
-/
namespace Rspirv.Props.Reload
open Rspirv Rspirv.Model Rspirv.Props.C05 Rspirv.Props.C01 Rspirv.Props.C06Round

/-! ### running the loader over pieces of the traversal -/

theorem run_top (L : LTables) {k : Nat} (hk : k ≤ 10) (l : List Inst) (m0 : Module Inst)
    (ht : ∀ i ∈ l, topDest L i.opcode = some k) (h3 : k = 3 → l.tail = [] ∧ (l ≠ [] → m0.memoryModel = none)) :
    ∃ m1, LState.run L ⟨m0, none, none⟩ l = .ok ⟨m1, none, none⟩ ∧
      (∀ j, j ≤ 10 → m1.sect j = m0.sect j ++ if k = j then l else []) ∧ m1.functions = m0.functions := by
  induction l generalizing m0 with
  | nil => exact ⟨m0, rfl, fun j _ => by split <;> simp, rfl⟩
  | cons i l ih =>
    -- a second memory model would overwrite the first: in section 3 the tail is empty
    obtain ⟨m1, r1, r2, r3⟩ := ih (m0.push k i) (fun x hx => ht x (List.mem_cons_of_mem _ hx))
      fun e => by rw [show l = [] from (h3 e).1]; exact ⟨rfl, fun h => absurd rfl h⟩
    refine ⟨m1, ?_, fun j hj => ?_, r3.trans (Module.push_functions ..)⟩
    · rw [LState.run, (Step.push hk (pushAt_of_topDest (ht i List.mem_cons_self))).ok]; exact r1
    · rw [r2 j hj, Module.sect_push_append m0 i hk hj (fun e _ => (h3 e).2 (List.cons_ne_nil _ _)), List.append_assoc]
      split <;> rfl

/-- running over the chains of `xs` one after the other, when the chain of each `x` takes the state `g acc` to
`g (acc ++ [x])` -/
theorem run_each (L : LTables) {α : Type} (chain : α → List Inst) (g : List α → LState) : ∀ (xs acc : List α),
    (∀ x ∈ xs, ∀ acc, LState.run L (g acc) (chain x) = .ok (g (acc ++ [x]))) →
    LState.run L (g acc) (xs.flatMap chain) = .ok (g (acc ++ xs))
  | [], acc, _ => by rw [List.append_nil]; rfl
  | x :: xs, acc, h => by
    rw [List.flatMap_cons, run_append, h x List.mem_cons_self acc]
    simpa using run_each L chain g xs (acc ++ [x]) fun y hy => h y (List.mem_cons_of_mem _ hy)

theorem run_body (L : LTables) (m : Module Inst) (f : Function Inst) (l : List Inst) (b : Block Inst)
    (h : ∀ i ∈ l, inBlock L i.opcode = true) :
    LState.run L ⟨m, some f, some b⟩ l = .ok ⟨m, some f, some { b with insts := b.insts ++ l }⟩ := by
  have := run_each L (fun i => [i]) (fun a => ⟨m, some f, some { b with insts := a }⟩) l b.insts fun i hi a => by
    rw [LState.run, (Step.body (bodyAt_of_inBlock (h i hi))).ok]; rfl
  rwa [List.flatMap_singleton'] at this

theorem run_block (L : LTables) (m : Module Inst) (f : Function Inst) (b : Block Inst) (hb : BlockCanon L b) :
    LState.run L ⟨m, some f, none⟩ (blockChain b) = .ok ⟨m, some { f with blocks := f.blocks ++ [b] }, none⟩ := by
  obtain ⟨l, body, t, rfl, hl, ht, hbody⟩ := hb
  simp only [blockChain, Option.toList, List.singleton_append, LState.run, (Step.label (m := m) (f := f) hl).ok]
  rw [run_append L body, run_body L m f body _ hbody]
  simp only [LState.run, (Step.term (m := m) (f := f) ht).ok, List.nil_append]

theorem run_blocks (L : LTables) (m : Module Inst) (bs : List (Block Inst)) (f : Function Inst)
    (h : ∀ b ∈ bs, BlockCanon L b) :
    LState.run L ⟨m, some f, none⟩ (bs.flatMap blockChain) = .ok ⟨m, some { f with blocks := f.blocks ++ bs }, none⟩ :=
  run_each L blockChain (fun a => ⟨m, some { f with blocks := a }, none⟩) bs f.blocks fun b hb a =>
    run_block L m { f with blocks := a } b (h b hb)

theorem run_params (L : LTables) (m : Module Inst) (ps : List Inst) (f : Function Inst)
    (h : ∀ p ∈ ps, classify L p.opcode = .param) :
    LState.run L ⟨m, some f, none⟩ ps = .ok ⟨m, some { f with params := f.params ++ ps }, none⟩ := by
  have := run_each L (fun i => [i]) (fun a => ⟨m, some { f with params := a }, none⟩) ps f.params fun p hp a => by
    rw [LState.run, (Step.param (h p hp)).ok]; rfl
  rwa [List.flatMap_singleton'] at this

theorem run_fn (L : LTables) (m : Module Inst) (f : Function Inst) (hf : FnCanon L f) :
    LState.run L ⟨m, none, none⟩ (fnChain f) = .ok ⟨{ m with functions := m.functions ++ [f] }, none, none⟩ := by
  obtain ⟨d, e, hd, he, hcd, hce, hps, hbs⟩ := hf
  obtain ⟨fd, fe, fp, fb⟩ := f
  simp only at hd he hps hbs
  subst hd he
  simp only [fnChain, Option.toList, List.append_assoc, List.cons_append, List.nil_append, LState.run,
    (Step.fn (m := m) (b := none) hcd).ok]
  rw [run_append L fp, run_params L m fp _ hps]
  simp only
  rw [run_append L (fb.flatMap blockChain), run_blocks L m fb _ hbs]
  simp only [LState.run, (Step.fnEnd (m := m) hce).ok, List.nil_append]

theorem run_fns (L : LTables) (fs : List (Function Inst)) (m : Module Inst) (h : ∀ f ∈ fs, FnCanon L f) :
    LState.run L ⟨m, none, none⟩ (fs.flatMap fnChain) = .ok ⟨{ m with functions := m.functions ++ fs }, none, none⟩ :=
  run_each L fnChain (fun a => ⟨{ m with functions := a }, none, none⟩) fs m.functions fun f hf a =>
    run_fn L { m with functions := a } f (h f hf)

theorem run_sects (L : LTables) (m : Module Inst) (hc : Canon L m) (m0 : Module Inst) (h0 : ∀ j, m0.sect j = [])
    (n : Nat) (hn : n ≤ 11) :
    ∃ m1, LState.run L ⟨m0, none, none⟩ ((List.range n).flatMap m.sect) = .ok ⟨m1, none, none⟩ ∧
      (∀ j, j ≤ 10 → m1.sect j = if j < n then m.sect j else []) ∧ m1.functions = m0.functions := by
  induction n with
  | zero => exact ⟨m0, rfl, fun j _ => h0 j, rfl⟩
  | succ n ih =>
    obtain ⟨m1, r1, r2, r3⟩ := ih (Nat.le_of_succ_le hn)
    have hn := Nat.le_of_succ_le_succ hn
    -- section 3 is the memory model: at most one instruction, and none has been filed before
    have h3 : n = 3 → (m.sect n).tail = [] ∧ (m.sect n ≠ [] → m1.memoryModel = none) := by
      rintro rfl
      exact ⟨by rw [Module.sect]; cases m.memoryModel <;> rfl, fun _ => Option.toList_eq_nil_iff.1 (r2 3 hn)⟩
    obtain ⟨m2, t1, t2, t3⟩ := run_top L hn (m.sect n) m1 (hc.sect_topDest hn) h3
    refine ⟨m2, ?_, fun j hj => ?_, t3.trans r3⟩
    · rw [List.range_succ, List.flatMap_append, List.flatMap_singleton, run_append, r1]; exact t1
    · rw [t2 j hj, r2 j hj]
      rcases Nat.lt_trichotomy j n with h | rfl | h
      · rw [if_pos h, if_neg (Nat.ne_of_gt h), if_pos (Nat.lt_succ_of_lt h), List.append_nil]
      · rw [if_neg (Nat.lt_irrefl j), if_pos rfl, if_pos (Nat.lt_succ_self j), List.nil_append]
      · rw [if_neg (Nat.lt_asymm h), if_neg (Nat.ne_of_lt h), if_neg (Nat.not_lt_of_le h)]; rfl

/-- **Canonical modules reload.** The loader, fed with the header `h` and the all-instructions traversal of a canonical
module, returns that module (with `h` as its header): every instruction is filed where it was. -/
theorem load_canon (L : LTables) (h : Header) (m : Module Inst) (hc : Canon L m) :
    load L h (Rspirv.Props.C15.allInstIter m) = .ok { m with header := some h } := by
  obtain ⟨m1, r1, r2, r3⟩ := run_sects L m hc (LState.start h).module (start_sect h) 11 (Nat.le_refl _)
  rw [load_ok, allInstIter_eq, run_append, show LState.start h = ⟨(LState.start h).module, none, none⟩ from rfl, r1]
  dsimp only
  rw [run_fns L m.functions m1 hc.fns]
  congr 2
  apply Module.ext_sect
  · intro j hj
    rw [Module.sect_functions, Module.sect_header, r2 j hj, if_pos (Nat.lt_succ_of_le hj)]
    rfl
  · exact run_header r1
  · exact congrArg (· ++ m.functions) r3

/-! ### every loaded module is canonical -/

structure CInv (L : LTables) (s : LState) : Prop extends Canon L s.module where
  cur : ∀ f, s.function = some f → FnOpen L f none
  blk : ∀ b, s.block = some b → BlockOpen L b

theorem step_cinv (L : LTables) (s s' : LState) (i : Inst) (hs : CInv L s) (h : s.step L i = .ok s') : CInv L s' := by
  obtain ⟨hm, h5, h6⟩ := hs
  obtain ⟨d, hd⟩ := step_ok h
  cases hd with
  | push _ hc =>
    obtain ⟨a, b⟩ := Top.push ⟨hm.sects, hm.mm⟩ (topDest_of_pushAt hc)
    exact ⟨⟨a, b, by simpa [Module.push_functions] using hm.fns⟩, h5, h6⟩
  | @body _ _ b hc =>
    obtain ⟨l, hl, hcl, hn⟩ := h6 b rfl
    exact ⟨hm, h5, by rintro _ ⟨⟩; exact ⟨l, hl, hcl, forall_mem_append_singleton hn (inBlock_of_bodyAt hc)⟩⟩
  | fn hc =>
    exact ⟨hm, by rintro _ ⟨⟩; exact ⟨i, rfl, hc, (by rintro _ ⟨⟩), (by rintro _ ⟨⟩)⟩, h6⟩
  | @fnEnd m f hc =>
    obtain ⟨d, hd, hcd, hp, hb⟩ := h5 f rfl
    exact ⟨⟨hm.sects, hm.mm, forall_mem_append_singleton hm.fns ⟨d, i, hd, rfl, hcd, hc, hp, hb⟩⟩, (by rintro _ ⟨⟩), h6⟩
  | @param _ f _ hc =>
    obtain ⟨d, hd, hcd, hp, hb⟩ := h5 f rfl
    exact ⟨hm, by rintro _ ⟨⟩; exact ⟨d, hd, hcd, forall_mem_append_singleton hp hc, hb⟩, h6⟩
  | label hc => exact ⟨hm, h5, by rintro _ ⟨⟩; exact ⟨i, rfl, hc, (by rintro _ ⟨⟩)⟩⟩
  | @term _ f b hc =>
    obtain ⟨d, hd, hcd, hp, hb⟩ := h5 f rfl
    exact ⟨hm, by rintro _ ⟨⟩; exact ⟨d, hd, hcd, hp, forall_mem_append_singleton hb ((h6 b rfl).close hc)⟩,
      (by rintro _ ⟨⟩)⟩

theorem cinv_start (L : LTables) (h : Header) : CInv L (LState.start h) :=
  ⟨⟨fun k _ _ i hi => (by rw [start_sect] at hi; cases hi), (by rintro _ ⟨⟩), (by rintro _ ⟨⟩)⟩, (by rintro _ ⟨⟩),
    (by rintro _ ⟨⟩)⟩

/-- **Every module the loader returns is canonical.** -/
theorem canon_of_load (L : LTables) (h : Header) (is : List Inst) (m : Module Inst) (hl : load L h is = .ok m) :
    Canon L m :=
  (run_ok (step_cinv L) (cinv_start L h) (load_ok.1 hl)).toCanon

/-- **C01 (reload, loader level).** Whatever instruction sequence the loader accepted: feeding it the
all-instructions traversal of the module it returned (what `assemble` encodes, in that order) gives the same module
again. -/
theorem C01_reload (L : LTables) (h : Header) (is : List Inst) (m : Module Inst) (hl : load L h is = .ok m) :
    load L h (Rspirv.Props.C15.allInstIter m) = .ok m := by
  rw [load_canon L h m (canon_of_load L h is m hl), Module.with_header m (load_header hl)]

/-! ### a canonical function is a finished one: the shape theorem of C05 -/

theorem BlockCanon.done {L : LTables} {b : Block Inst} (hb : BlockCanon L b) : BlockDone L b := by
  obtain ⟨l, body, t, rfl, _, ht, hbody⟩ := hb
  refine ⟨rfl, body, t, rfl, ht, fun x hx hc => ?_⟩
  have := hbody x hx
  unfold isTerm at hc
  unfold inBlock at this
  rw [hc] at this
  cases this

theorem FnCanon.done {L : LTables} {f : Function Inst} (hf : FnCanon L f) : FnDone L f := by
  obtain ⟨d, e, hd, he, _, _, _, hb⟩ := hf
  exact ⟨by rw [hd]; rfl, by rw [he]; rfl, fun b hbm => (hb b hbm).done⟩

end Rspirv.Props.Reload

namespace Rspirv.Props.C05
open Rspirv Rspirv.Model

/-- **C05 (shape).** On success every function owns its defining and its ending instruction, every block owns its
label and ends with a termination instruction that occurs nowhere else in it. -/
theorem C05_shape (L : LTables) (h : Header) (is : List Inst) (m : Module Inst) (hl : load L h is = .ok m) :
    ∀ f ∈ m.functions, FnDone L f :=
  fun f hf => ((Reload.canon_of_load L h is m hl).fns f hf).done

end Rspirv.Props.C05
