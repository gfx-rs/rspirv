import Rspirv.Model.Decoder
/-!
# C11 — the decoder consumes exactly what it returns and honours limits

Statements about the model `Rspirv.Model.DState` (tied to `binary/decoder.rs` by the `dec` channel), for
every buffer and every finite request sequence. `Inv` is the invariant "offset within the buffer"; `Small`
is Rust's guarantee that a slice is at most `isize::MAX` bytes long. Two facts are what the other files use: `Frame d d'`
holds of every request, failed ones included (bytes untouched, the offset and the end the limit implies never move the
wrong way); `Adv c d d'` holds of a successful one (`word_ok`, `string_ok`: exactly `c` words on, inside buffer and limit).
-/
namespace Rspirv.Props.C11
open Rspirv Rspirv.Model Rspirv.Model.DState

def Inv (d : DState) : Prop := d.offset ≤ d.bytes.length
def Small (d : DState) : Prop := d.bytes.length < 2 ^ 63

theorem Small.of_bytes {d d' : DState} (h : d'.bytes = d.bytes) (hs : Small d) : Small d' := by
  unfold Small at *; rw [h]; exact hs

/-- words still allowed by the limit, as an absolute end offset (`none` = unlimited) -/
def budgetEnd (d : DState) : Option Nat := d.limit.map (fun l => d.offset + 4 * l)

/-! ### raw words -/

/-- **C11 (word).** Exactly three outcomes. Success: the little-endian word at the offset, offset advanced by four
(still inside the buffer), limit charged by one. Failure: offset unchanged and carried by the error. -/
theorem word_spec (d : DState) :
    (d.limit = some 0 ∧ word d = (.err (.limitReached d.offset), d)) ∨
    (d.limit ≠ some 0 ∧ d.offset + 4 ≤ d.bytes.length ∧
      word d = (.ok (le32 d.bytes d.offset), { d with offset := d.offset + 4, limit := d.limit.map (· - 1) })) ∨
    (d.limit ≠ some 0 ∧ ¬ d.offset + 4 ≤ d.bytes.length ∧
      word d = (.err (.streamExpected d.offset), { d with limit := d.limit.map (· - 1) })) := by
  fun_cases word d
  · exact .inl ⟨‹_›, rfl⟩
  · have : d.offset ≥ d.bytes.length ∨ d.offset + 4 > d.bytes.length := ‹_›
    exact .inr (.inr ⟨‹_›, by omega, rfl⟩)
  · have : ¬(d.offset ≥ d.bytes.length ∨ d.offset + 4 > d.bytes.length) := ‹_›
    exact .inr (.inl ⟨‹_›, by omega, rfl⟩)

theorem word_fail_offset (d : DState) (e : DErr) (d' : DState) (h : word d = (.err e, d')) :
    d'.offset = d.offset ∧ (e = .limitReached d.offset ∨ e = .streamExpected d.offset) := by
  rcases word_spec d with ⟨_, hw⟩ | ⟨_, _, hw⟩ | ⟨_, _, hw⟩ <;> rw [hw] at h
  · cases h; exact ⟨rfl, Or.inl rfl⟩
  · cases h
  · cases h; exact ⟨rfl, Or.inr rfl⟩

theorem word_never_panics (d : DState) (s : String) (d' : DState) : word d ≠ (.panic s, d') := by
  rcases word_spec d with ⟨_, hw⟩ | ⟨_, _, hw⟩ | ⟨_, _, hw⟩ <;> rw [hw] <;> simp

theorem word_of_fits {d : DState} (hl : d.limit ≠ some 0) (hb : d.offset + 4 ≤ d.bytes.length) :
    word d = (.ok (le32 d.bytes d.offset), { d with offset := d.offset + 4, limit := d.limit.map (· - 1) }) := by
  rcases word_spec d with ⟨h0, _⟩ | ⟨_, _, hw⟩ | ⟨_, hb', _⟩
  · exact absurd h0 hl
  · exact hw
  · exact absurd hb hb'

theorem word_unlimited {d : DState} (hl : d.limit = none) (hb : d.offset + 4 ≤ d.bytes.length) :
    word d = (.ok (le32 d.bytes d.offset), { d with offset := d.offset + 4 }) := by
  rw [word_of_fits (by rw [hl]; nofun) hb, hl]; rfl

theorem word_eof {d : DState} (hl : d.limit = none) (hb : ¬ d.offset + 4 ≤ d.bytes.length) :
    word d = (.err (.streamExpected d.offset), d) := by
  obtain ⟨bytes, offset, limit⟩ := d
  cases hl
  rcases word_spec ⟨bytes, offset, none⟩ with ⟨h0, _⟩ | ⟨_, hb', _⟩ | ⟨_, _, hw⟩
  · cases h0
  · exact absurd hb' hb
  · exact hw

/-- one step of the generic "frame" facts every request satisfies: bytes untouched, offset monotone and inside the
buffer, and — under a limit — the budget end never moves forward (so at most `n` words after `set_limit n`) -/
structure Frame (d d' : DState) : Prop where
  bytes : d'.bytes = d.bytes
  mono : d.offset ≤ d'.offset
  inv : Inv d → Inv d'
  limited : ∀ l, d.limit = some l → ∃ l', d'.limit = some l' ∧ d'.offset + 4 * l' ≤ d.offset + 4 * l
  unlimited : d.limit = none → d'.limit = none

theorem Frame.refl (d : DState) : Frame d d :=
  ⟨rfl, Nat.le_refl _, id, fun l h => ⟨l, h, Nat.le_refl _⟩, id⟩

theorem Frame.trans {a b c : DState} (h1 : Frame a b) (h2 : Frame b c) : Frame a c where
  bytes := h2.bytes.trans h1.bytes
  mono := Nat.le_trans h1.mono h2.mono
  inv := fun h => h2.inv (h1.inv h)
  limited := fun l hl => by
    obtain ⟨l1, e1, b1⟩ := h1.limited l hl
    obtain ⟨l2, e2, b2⟩ := h2.limited l1 e1
    exact ⟨l2, e2, Nat.le_trans b2 b1⟩
  unlimited := fun h => h2.unlimited (h1.unlimited h)

/-- What a successful request does: `d'` is `d` after `c` more words, all of them inside the buffer and inside the limit,
and the limit is charged exactly `c`. `Frame` (here) and `ParserSpec.Keeps` are what is left of this when `c` is forgotten. -/
structure Adv (c : Nat) (d d' : DState) : Prop where
  bytes : d'.bytes = d.bytes
  offset : d'.offset = d.offset + 4 * c
  limit : d'.limit = d.limit.map (· - c)
  fits : d.offset + 4 * c ≤ d.bytes.length
  within : ∀ l, d.limit = some l → c ≤ l

theorem Adv.pos {c : Nat} {d d' : DState} (h : Adv c d d') (l : Nat) (hl : d.limit = some l) :
    ∃ l', d'.limit = some l' ∧ d'.offset + 4 * l' = d.offset + 4 * l :=
  ⟨l - c, by rw [h.limit, hl]; rfl, by rw [h.offset, Nat.add_assoc, ← Nat.mul_add, Nat.add_sub_of_le (h.within l hl)]⟩

theorem Adv.frame {c : Nat} {d d' : DState} (h : Adv c d d') : Frame d d' where
  bytes := h.bytes
  mono := h.offset ▸ Nat.le_add_right _ _
  inv := fun _ => by unfold Inv; rw [h.offset, h.bytes]; exact h.fits
  limited := fun l hl => let ⟨l', e, p⟩ := h.pos l hl; ⟨l', e, Nat.le_of_eq p⟩
  unlimited := fun hl => by rw [h.limit, hl]; rfl

theorem word_ok {d d' : DState} {v : Nat} (h : word d = (.ok v, d')) : v = le32 d.bytes d.offset ∧ Adv 1 d d' := by
  rcases word_spec d with ⟨_, hw⟩ | ⟨hl, hb, hw⟩ | ⟨_, _, hw⟩ <;> rw [hw] at h <;> cases h
  exact ⟨rfl, rfl, rfl, rfl, hb, fun l hl' => by cases l with | zero => exact absurd hl' hl | succ l => exact Nat.succ_pos l⟩

theorem word_frame (d : DState) : Frame d (word d).2 := by
  rcases word_spec d with ⟨_, hw⟩ | ⟨_, _, hw⟩ | ⟨hl, _, hw⟩ <;> rw [hw]
  · exact Frame.refl d
  · exact (word_ok hw).2.frame
  · -- the limit is charged although nothing was read
    refine ⟨rfl, Nat.le_refl _, id, fun l h => ?_, fun h => congrArg (Option.map _) h⟩
    cases l with
    | zero => exact absurd h hl
    | succ l => exact ⟨l, congrArg (Option.map _) h, Nat.add_le_add_left (Nat.mul_le_mul_left 4 (Nat.le_succ l)) _⟩

theorem word_frame_of {d d' : DState} {r : Res Nat} (h : word d = (r, d')) : Frame d d' := by
  have := word_frame d
  rwa [h] at this

/-- **C11 (words).** `words n`: on success exactly the `n` little-endian words from the offset on, offset advanced
by `4n`; never a panic; always a frame. -/
theorem words_spec : ∀ (n : Nat) (d : DState),
    Frame d (words n d).2 ∧ (∀ s, (words n d).1 ≠ .panic s) ∧
    (∀ ws, (words n d).1 = .ok ws →
      ws = (List.range n).map (fun i => le32 d.bytes (d.offset + 4 * i)) ∧ (words n d).2.offset = d.offset + 4 * n) := by
  intro n d
  fun_induction words n d with
  | case1 d => exact ⟨Frame.refl d, (fun _ h => nomatch h), fun _ h => by cases h; exact ⟨rfl, rfl⟩⟩
  | case2 n d w d1 hw ws d2 hws ih =>
    rw [hws] at ih
    obtain ⟨rfl, a⟩ := word_ok hw
    refine ⟨a.frame.trans ih.1, (fun _ h => nomatch h), fun _ h => ?_⟩
    cases h
    obtain ⟨rfl, e2⟩ := ih.2.2 ws rfl
    refine ⟨?_, by rw [e2, a.offset]; omega⟩
    -- the words behind the first are those at `i + 1`
    rw [List.range_succ_eq_map, List.map_cons, List.map_map, a.bytes, a.offset]
    exact congrArg _ (List.map_congr_left fun i _ => congrArg _ (by omega))
  | case3 n d w d1 hw e d2 hws ih =>
    rw [hws] at ih
    exact ⟨(word_frame_of hw).trans ih.1, (fun _ h => nomatch h), fun _ h => nomatch h⟩
  | case4 n d w d1 hw s d2 hws ih => exact absurd (congrArg Prod.fst hws) (ih.2.1 s)
  | case5 n d e d1 hw => exact ⟨word_frame_of hw, (fun _ h => nomatch h), fun _ h => nomatch h⟩
  | case6 n d s d1 hw => exact absurd hw (word_never_panics d s d1)

theorem bit64_spec (d : DState) :
    Frame d (bit64 d).2 ∧ (∀ s, (bit64 d).1 ≠ .panic s) ∧
    (∀ v, (bit64 d).1 = .ok v →
      v = le32 d.bytes (d.offset + 4) * 4294967296 + le32 d.bytes d.offset ∧ (bit64 d).2.offset = d.offset + 8) := by
  fun_cases bit64 d with
  | case1 lo d1 hw hi d2 hw2 =>
    obtain ⟨rfl, a⟩ := word_ok hw
    obtain ⟨rfl, a2⟩ := word_ok hw2
    exact ⟨a.frame.trans a2.frame, (fun _ h => nomatch h), fun _ h => by
      cases h; rw [a.bytes, a.offset, a2.offset, a.offset]; exact ⟨rfl, rfl⟩⟩
  | case2 lo d1 hw e d2 hw2 =>
    exact ⟨(word_frame_of hw).trans (word_frame_of hw2), (fun _ h => nomatch h), fun _ h => nomatch h⟩
  | case3 lo d1 hw s d2 hw2 => exact absurd hw2 (word_never_panics d1 s d2)
  | case4 e d1 hw => exact ⟨word_frame_of hw, (fun _ h => nomatch h), fun _ h => nomatch h⟩
  | case5 s d1 hw => exact absurd hw (word_never_panics d s d1)

/-! ### typed requests -/

/-- the generated typed request (`autogen_decode_operand.rs`): `DState.enum` with `from_u32` for `f`, `DState.mask` with
`from_bits` -/
def typedReq (f : Nat → Option Nat) (site : String) (ev : Nat) (d : DState) : Res Nat × DState :=
  match word d with
  | (.ok w, d1) =>
    match f w with
    | some v => (.ok v, d1)
    | none => if d1.offset < 4 then (.panic site, d1) else (.err (.unknown ev (d1.offset - 4) w), d1)
  | (.err _, d1) => (.err (.streamExpected d1.offset), d1)
  | (.panic s, d1) => (.panic s, d1)

theorem enum_eq (E : EnumSpec) (ev : Nat) (d : DState) :
    DState.enum E ev d = typedReq E.fromU32 "enum: offset underflow" ev d := rfl

theorem mask_eq (M : MaskSpec) (ev : Nat) (d : DState) :
    DState.mask M ev d = typedReq M.fromBits "mask: offset underflow" ev d := rfl

/-- The three ways a typed request ends: the raw word read is one `f` accepts; or `f` refuses it, and it is reported at its own
offset from the state behind it; or no raw word could be read, which is reported as a short stream whatever the reason. -/
theorem typedReq_cases (f : Nat → Option Nat) (site : String) (ev : Nat) (d : DState) :
    (∃ w v d', word d = (.ok w, d') ∧ f w = some v ∧ typedReq f site ev d = (.ok v, d')) ∨
    (∃ w d', word d = (.ok w, d') ∧ f w = none ∧ typedReq f site ev d = (.err (.unknown ev d.offset w), d')) ∨
    (∃ e d', word d = (.err e, d') ∧ typedReq f site ev d = (.err (.streamExpected d.offset), d')) := by
  fun_cases typedReq f site ev d with
  | case1 w d' hw v hf => exact .inl ⟨w, v, d', hw, hf, rfl⟩
  | case2 w d' hw hf ho => have := (word_ok hw).2.offset; omega
  | case3 w d' hw hf ho => exact .inr (.inl ⟨w, d', hw, hf, by rw [(word_ok hw).2.offset, Nat.add_sub_cancel]⟩)
  | case4 e d' hw => exact .inr (.inr ⟨e, d', hw, by rw [(word_fail_offset d e d' hw).1]⟩)
  | case5 s d' hw => exact absurd hw (word_never_panics d s d')

theorem typedReq_spec (f : Nat → Option Nat) (site : String) (ev : Nat) (d : DState) :
    Frame d (typedReq f site ev d).2 ∧ (∀ s, (typedReq f site ev d).1 ≠ .panic s) ∧
    (∀ v, (typedReq f site ev d).1 = .ok v →
      f (le32 d.bytes d.offset) = some v ∧ (typedReq f site ev d).2.offset = d.offset + 4) := by
  rcases typedReq_cases f site ev d with ⟨w, v, d', hw, hfw, h⟩ | ⟨w, d', hw, _, h⟩ | ⟨e, d', hw, h⟩ <;> rw [h]
  · obtain ⟨rfl, a⟩ := word_ok hw
    exact ⟨a.frame, (fun _ h => nomatch h), fun v' hv => by cases hv; exact ⟨hfw, a.offset⟩⟩
  all_goals exact ⟨word_frame_of hw, (fun _ h => nomatch h), fun _ h => nomatch h⟩

theorem enum_spec (E : EnumSpec) (ev : Nat) (d : DState) :
    Frame d (DState.enum E ev d).2 ∧ (∀ s, (DState.enum E ev d).1 ≠ .panic s) ∧
    (∀ v, (DState.enum E ev d).1 = .ok v →
      E.fromU32 (le32 d.bytes d.offset) = some v ∧ (DState.enum E ev d).2.offset = d.offset + 4) :=
  enum_eq E ev d ▸ typedReq_spec _ _ ev d

theorem mask_spec (M : MaskSpec) (ev : Nat) (d : DState) :
    Frame d (DState.mask M ev d).2 ∧ (∀ s, (DState.mask M ev d).1 ≠ .panic s) ∧
    (∀ v, (DState.mask M ev d).1 = .ok v →
      M.fromBits (le32 d.bytes d.offset) = some v ∧ (DState.mask M ev d).2.offset = d.offset + 4) :=
  mask_eq M ev d ▸ typedReq_spec _ _ ev d

/-! ### strings -/

/-- the bytes `Decoder::string` searches for the terminator: from the offset on, at most as many as the limit allows -/
def strSlice (d : DState) : List Nat := (d.bytes.drop d.offset).take (strWindow d.limit (d.bytes.length - d.offset))

theorem strSlice_length_le (d : DState) : (strSlice d).length ≤ d.bytes.length - d.offset := by
  rw [strSlice, List.length_take, List.length_drop]; exact Nat.min_le_right _ _

theorem strSlice_length_limit {d : DState} {l : Nat} (hl : d.limit = some l) : (strSlice d).length ≤ 4 * l := by
  rw [strSlice, hl, List.length_take, strWindow, Nat.mul_comm]
  exact Nat.le_trans (Nat.min_le_left _ _) (Nat.min_le_left _ _)

theorem first_zero_of_take {l : List Nat} {n nul : Nat} (h : (l.take n).findIdx? (· == 0) = some nul) :
    l[nul]? = some 0 ∧ (∀ j < nul, l[j]? ≠ some 0) ∧ (l.take n).take nul = l.take nul := by
  obtain ⟨hnl, hz, hmin⟩ := List.findIdx?_eq_some_iff_getElem.1 h
  have hn : nul < n ∧ nul < l.length := by rw [List.length_take] at hnl; omega
  rw [List.getElem_take] at hz
  refine ⟨?_, ?_, ?_⟩
  · rw [List.getElem?_eq_getElem hn.2, beq_iff_eq.1 hz]
  · intro j hj e
    have := hmin j hj
    rw [List.getElem_take] at this
    rw [List.getElem?_eq_getElem (by omega)] at e
    exact this (by rw [Option.some.inj e]; rfl)
  · rw [List.take_take, Nat.min_eq_left (by omega)]

theorem string_eq (d : DState) :
    DState.string d =
      match (strSlice d).findIdx? (· == 0) with
      | none =>
        (.err (if d.limit.isSome ∧ strWindow d.limit (d.bytes.length - d.offset) ≤ d.bytes.length - d.offset
            then .limitReached (d.offset + (strSlice d).length) else .streamExpected d.offset), d)
      | some nul =>
        if (nul / 4 + 1) * 4 > usizeMax then (.panic "string: multiply overflow", d)
        else if (strSlice d).length < (nul / 4 + 1) * 4 then (.err (.streamExpected d.offset), d)
        else if !validUtf8 ((strSlice d).take nul) then (.err (.decodeStringFailed d.offset), d)
        else if d.offset + (nul / 4 + 1) * 4 > usizeMax then (.panic "string: offset overflow", d)
        else (.ok ((strSlice d).take nul),
          { d with offset := d.offset + (nul / 4 + 1) * 4, limit := d.limit.map (· - (nul / 4 + 1)) }) := by
  have hlim : ∀ l, d.limit = some l → (strSlice d).length ≤ 4 * l := fun l => strSlice_length_limit
  -- beyond the end of the buffer `drop` is empty anyway
  have hrest : (if d.offset ≤ d.bytes.length then d.bytes.drop d.offset else []) = d.bytes.drop d.offset :=
    ite_eq_left_iff.2 fun h => (List.drop_eq_nil_of_le (Nat.le_of_not_le h)).symm
  unfold DState.string
  rw [hrest]
  dsimp only
  -- the slice searched is `strSlice d`, and the first panic site is dead
  rw [List.length_drop, if_neg (Nat.not_lt.2 (Nat.min_le_right _ _)),
    show List.take (min (strWindow d.limit (d.bytes.length - d.offset)) (d.bytes.length - d.offset)) (d.bytes.drop d.offset)
      = strSlice d from List.take_eq_take_iff.2 (by rw [List.length_drop, Nat.min_assoc, Nat.min_self])]
  generalize strSlice d = slice at hlim ⊢
  rcases slice.findIdx? (· == 0) with _ | nul <;> dsimp only
  · rcases d.limit with _ | l
    · rfl
    · dsimp only; simp only [Option.isSome_some, true_and]; split <;> rfl
  · refine ite_congr rfl (fun _ => rfl) fun _ => ite_congr rfl (fun _ => rfl) fun c2 =>
      ite_congr rfl (fun _ => rfl) fun _ => ite_congr rfl (fun _ => rfl) fun _ => ?_
    -- the string lies inside the window, so the limit covers it
    rcases hl : d.limit with _ | l
    · rfl
    · dsimp only; rw [if_neg (by have := hlim l hl; omega)]; rfl

/-- The three ways `string` ends. It fails, with the state untouched and one of three errors; or one of its two overflow
checks fires, which needs a buffer longer than a Rust slice; or it finds the first NUL of the window at `nul`, in a whole
word of the window and behind valid UTF-8, and moves on by the words up to that one. -/
theorem string_cases (d : DState) :
    (∃ e, DState.string d = (.err e, d) ∧ (e = .streamExpected d.offset ∨ e = .decodeStringFailed d.offset ∨
      (e = .limitReached (d.offset + (strSlice d).length) ∧ d.limit.isSome))) ∨
    (∃ s nul, DState.string d = (.panic s, d) ∧ (strSlice d).findIdx? (· == 0) = some nul ∧
      (usizeMax < (nul / 4 + 1) * 4 ∨ usizeMax < d.offset + (nul / 4 + 1) * 4)) ∨
    (∃ nul d', DState.string d = (.ok ((strSlice d).take nul), d') ∧ (strSlice d).findIdx? (· == 0) = some nul ∧
      validUtf8 ((strSlice d).take nul) = true ∧ Adv (nul / 4 + 1) d d') := by
  rw [string_eq]
  rcases hf : (strSlice d).findIdx? (· == 0) with _ | nul <;> dsimp only
  · refine .inl ⟨_, rfl, ?_⟩
    split
    · exact .inr (.inr ⟨rfl, ‹_ ∧ _›.1⟩)
    · exact .inl rfl
  by_cases c1 : (nul / 4 + 1) * 4 > usizeMax
  · rw [if_pos c1]; exact .inr (.inl ⟨_, nul, rfl, rfl, .inl c1⟩)
  by_cases c2 : (strSlice d).length < (nul / 4 + 1) * 4
  · rw [if_neg c1, if_pos c2]; exact .inl ⟨_, rfl, .inl rfl⟩
  rw [if_neg c1, if_neg c2]
  cases c3 : validUtf8 ((strSlice d).take nul)
  · exact .inl ⟨_, rfl, .inr (.inl rfl)⟩
  by_cases c4 : d.offset + (nul / 4 + 1) * 4 > usizeMax
  · rw [if_neg (by nofun), if_pos c4]; exact .inr (.inl ⟨_, nul, rfl, rfl, .inr c4⟩)
  rw [if_neg (by nofun), if_neg c4]
  have hlen := strSlice_length_le d
  have hnl := (List.findIdx?_eq_some_iff_getElem.1 hf).1
  exact .inr (.inr ⟨nul, _, rfl, rfl, c3, rfl, Nat.mul_comm _ _ ▸ rfl, rfl, by omega,
    fun l hl => Nat.le_of_mul_le_mul_right (Nat.le_trans (Nat.not_lt.1 c2) (Nat.mul_comm 4 l ▸ strSlice_length_limit hl))
      (by decide)⟩)

theorem string_fail {d d' : DState} {r : Res (List Nat)} (h : DState.string d = (r, d')) (hr : ∀ bs, r ≠ .ok bs) : d' = d := by
  rcases string_cases d with ⟨_, h', _⟩ | ⟨_, _, h', _⟩ | ⟨_, _, h', _⟩ <;> rw [h'] at h <;> cases h
  · rfl
  · rfl
  · exact absurd rfl (hr _)

theorem string_ok {d d' : DState} {bs : List Nat} (h : DState.string d = (.ok bs, d')) :
    ∃ nul, (strSlice d).findIdx? (· == 0) = some nul ∧ bs = (strSlice d).take nul ∧ validUtf8 bs = true ∧
      Adv (nul / 4 + 1) d d' := by
  rcases string_cases d with ⟨_, h', _⟩ | ⟨_, _, h', _⟩ | ⟨nul, _, h', hf, hv, a⟩ <;> rw [h'] at h <;> cases h
  exact ⟨nul, hf, rfl, hv, a⟩

/-- **C11 (string).** Under the invariant and Rust's slice-size bound, `string` never panics. On success there is
a position `nul` with: the byte at `offset + nul` is the first NUL at or after the offset; the result is exactly
the bytes before it and is valid UTF-8; `nul / 4 + 1` words are consumed, the new offset is inside the buffer;
under a limit `l` the consumed words are at most `l` (the string never extends past the limit) and are charged.
On failure the state is unchanged. -/
theorem string_spec (d : DState) (hi : Inv d) (hs : Small d) :
    (∀ s, (DState.string d).1 ≠ .panic s) ∧
    (∀ e, (DState.string d).1 = .err e → (DState.string d).2 = d) ∧
    (∀ bs, (DState.string d).1 = .ok bs → ∃ nul,
      (d.bytes.drop d.offset)[nul]? = some 0 ∧ (∀ j < nul, (d.bytes.drop d.offset)[j]? ≠ some 0) ∧
      bs = (d.bytes.drop d.offset).take nul ∧ validUtf8 bs = true ∧
      (DState.string d).2.offset = d.offset + 4 * (nul / 4 + 1) ∧
      (DState.string d).2.offset ≤ d.bytes.length ∧ (DState.string d).2.bytes = d.bytes ∧
      (∀ l, d.limit = some l → nul / 4 + 1 ≤ l ∧ (DState.string d).2.limit = some (l - (nul / 4 + 1))) ∧
      (d.limit = none → (DState.string d).2.limit = none)) := by
  refine ⟨fun s => ?_, fun e h => string_fail (Prod.ext h rfl) nofun, fun bs h => ?_⟩
  · -- the two overflow checks need more bytes than a Rust slice has
    rcases string_cases d with ⟨_, h', _⟩ | ⟨_, nul, _, hf, hov⟩ | ⟨_, _, h', _⟩
    · rw [h']; nofun
    · unfold Inv at hi
      unfold Small at hs
      have hlen := strSlice_length_le d
      have hnl := (List.findIdx?_eq_some_iff_getElem.1 hf).1
      have hum : usizeMax = 2 ^ 64 - 1 := rfl
      omega
    · rw [h']; nofun
  obtain ⟨nul, hf, rfl, hv, a⟩ := string_ok (Prod.ext h rfl : DState.string d = (.ok bs, (DState.string d).2))
  obtain ⟨h1, h2, h3⟩ := first_zero_of_take hf
  exact ⟨nul, h1, h2, h3, hv, a.offset, by rw [a.offset]; exact a.fits, a.bytes,
    fun l hl => ⟨a.within l hl, by rw [a.limit, hl]; rfl⟩, fun hl => by rw [a.limit, hl]; rfl⟩

theorem string_frame (d : DState) : Frame d (DState.string d).2 := by
  rcases h : DState.string d with ⟨bs | e | s, d'⟩
  · obtain ⟨_, _, _, _, a⟩ := string_ok h
    exact a.frame
  · rw [string_fail h nofun]; exact Frame.refl d
  · rw [string_fail h nofun]; exact Frame.refl d

/-- with the limit exhausted every consuming request fails with limit-reached and consumes nothing -/
theorem limit_reached (d : DState) (h : d.limit = some 0) (hi : Inv d) :
    word d = (.err (.limitReached d.offset), d) ∧ DState.string d = (.err (.limitReached d.offset), d) := by
  constructor
  · rcases word_spec d with ⟨_, hw⟩ | ⟨hl, _⟩ | ⟨hl, _⟩
    · exact hw
    all_goals exact absurd h hl
  · -- the window is empty: nothing to search
    have h0 : strSlice d = [] := List.eq_nil_of_length_eq_zero (Nat.le_zero.1 (strSlice_length_limit h))
    rw [string_eq, h0]
    simp [h, strWindow]

/-! ### histories -/

inductive Op where
  | word | words (n : Nat) | bit64 | string
  | enum (E : EnumSpec) (ev : Nat) | mask (M : MaskSpec) (ev : Nat)
  | setLimit (n : Nat) | clearLimit

/-- state after one request; `none` iff the request panics -/
def step (d : DState) : Op → Option DState
  | .word => some (word d).2
  | .words n => match (words n d).1 with | .panic _ => none | _ => some (words n d).2
  | .bit64 => match (bit64 d).1 with | .panic _ => none | _ => some (bit64 d).2
  | .string => match (DState.string d).1 with | .panic _ => none | _ => some (DState.string d).2
  | .enum E ev => match (DState.enum E ev d).1 with | .panic _ => none | _ => some (DState.enum E ev d).2
  | .mask M ev => match (DState.mask M ev d).1 with | .panic _ => none | _ => some (DState.mask M ev d).2
  | .setLimit n => some (d.setLimit n)
  | .clearLimit => some d.clearLimit

def run : DState → List Op → Option DState
  | d, [] => some d
  | d, op :: ops => (step d op).bind (fun d' => run d' ops)

def isLimitOp : Op → Bool
  | .setLimit _ => true
  | .clearLimit => true
  | _ => false

theorem step_frame (d : DState) (op : Op) (hop : isLimitOp op = false) (hi : Inv d) (hs : Small d) :
    ∃ d', step d op = some d' ∧ Frame d d' := by
  -- for each request: its panic arm is excluded by the request's own lemma, the other arm is its frame
  fun_cases step d op
  · exact ⟨_, rfl, word_frame d⟩
  · exact absurd ‹_› ((words_spec _ d).2.1 _)
  · exact ⟨_, rfl, (words_spec _ d).1⟩
  · exact absurd ‹_› ((bit64_spec d).2.1 _)
  · exact ⟨_, rfl, (bit64_spec d).1⟩
  · exact absurd ‹_› ((string_spec d hi hs).1 _)
  · exact ⟨_, rfl, string_frame d⟩
  · exact absurd ‹_› ((enum_spec _ _ d).2.1 _)
  · exact ⟨_, rfl, (enum_spec _ _ d).1⟩
  · exact absurd ‹_› ((mask_spec _ _ d).2.1 _)
  · exact ⟨_, rfl, (mask_spec _ _ d).1⟩
  · cases hop
  · cases hop

/-- **C11 (all histories).** From a fresh decoder on any buffer, no finite sequence of requests and limit changes
panics, the offset stays inside the buffer, and the bytes are never altered. -/
theorem C11_run (d : DState) (ops : List Op) (hi : Inv d) (hs : Small d) :
    ∃ d', run d ops = some d' ∧ Inv d' ∧ d'.bytes = d.bytes ∧ d.offset ≤ d'.offset := by
  induction ops generalizing d with
  | nil => exact ⟨d, rfl, hi, rfl, Nat.le_refl _⟩
  | cons op ops ih =>
    have key : ∃ d1, step d op = some d1 ∧ Inv d1 ∧ d1.bytes = d.bytes ∧ d.offset ≤ d1.offset := by
      cases hop : isLimitOp op with
      | false =>
        obtain ⟨d1, h1, f⟩ := step_frame d op hop hi hs
        exact ⟨d1, h1, f.inv hi, f.bytes, f.mono⟩
      | true =>
        cases op with
        | setLimit n => exact ⟨_, rfl, hi, rfl, Nat.le_refl _⟩
        | clearLimit => exact ⟨_, rfl, hi, rfl, Nat.le_refl _⟩
        | _ => cases hop
    obtain ⟨d1, h1, i1, b1, m1⟩ := key
    have hs1 : Small d1 := hs.of_bytes b1
    obtain ⟨d2, h2, i2, b2, m2⟩ := ih d1 i1 hs1
    exact ⟨d2, by simp [run, h1, h2], i2, b2.trans b1, Nat.le_trans m1 m2⟩

/-- **C11 (limit).** After `set_limit n`, any sequence of consuming requests (no further limit change) consumes at
most `n` words: the offset never passes `offset + 4n`, and the limit stays set. -/
theorem C11_limit (d : DState) (n : Nat) (ops : List Op) (hops : ops.all (fun o => !isLimitOp o) = true)
    (hi : Inv d) (hs : Small d) :
    ∃ d', run (d.setLimit n) ops = some d' ∧ d'.offset ≤ d.offset + 4 * n ∧ d'.limit.isSome := by
  suffices h : ∀ (ops : List Op) (d0 : DState) (l : Nat), ops.all (fun o => !isLimitOp o) = true → Inv d0 → Small d0 →
      d0.limit = some l → ∃ d', run d0 ops = some d' ∧ ∃ l', d'.limit = some l' ∧ d'.offset + 4 * l' ≤ d0.offset + 4 * l by
    obtain ⟨d', hr, l', hl', hb⟩ := h ops (d.setLimit n) n hops hi hs rfl
    exact ⟨d', hr, Nat.le_trans (Nat.le_add_right _ _) hb, hl' ▸ rfl⟩
  intro ops
  induction ops with
  | nil => intro d0 l _ _ _ hl; exact ⟨d0, rfl, l, hl, Nat.le_refl _⟩
  | cons op ops ih =>
    intro d0 l hall hi0 hs0 hl
    simp only [List.all_cons, Bool.and_eq_true, Bool.not_eq_true'] at hall
    obtain ⟨d1, h1, f⟩ := step_frame d0 op hall.1 hi0 hs0
    obtain ⟨l1, hl1, hb1⟩ := f.limited l hl
    have hs1 : Small d1 := hs0.of_bytes f.bytes
    obtain ⟨d2, h2, l2, hl2, hb2⟩ := ih d1 l1 hall.2 (f.inv hi0) hs1 hl1
    exact ⟨d2, by simp [run, h1, h2], l2, hl2, Nat.le_trans hb2 hb1⟩

/-- clearing the limit restores unlimited reading: the state is exactly the unlimited one at the same offset -/
theorem C11_clear (d : DState) : d.clearLimit = { d with limit := none } ∧
    (d.offset + 4 ≤ d.bytes.length → (word d.clearLimit).1 = .ok (le32 d.bytes d.offset)) :=
  ⟨rfl, fun h => by rw [word_unlimited (d := d.clearLimit) rfl h]; rfl⟩

example : Inv (DState.new [1, 2, 3]) ∧ Small (DState.new [1, 2, 3]) := by simp [Inv, Small, DState.new]
example : (DState.string (DState.new [97, 98, 0])).1 = .err (.streamExpected 0) := by decide
example : (DState.string ((DState.new [97, 98, 99, 100, 0, 0, 0, 0]).setLimit 1)).1 = .err (.limitReached 4) := by decide

end Rspirv.Props.C11
