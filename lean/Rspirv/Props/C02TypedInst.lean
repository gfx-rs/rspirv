import Rspirv.Props.C02Tables
import Rspirv.Props.RoundTrip
import Rspirv.Props.C01Full
/-!
# The typing judgement is exact; on the tables of this tree, what it buys

A conforming instruction is read back by the recogniser from its encoding (`C02Typed.typed_spec`), and an instruction
the recogniser delivers conforms (`C02TypedConv.spec_typed_len`). Together: **`InstT` characterises exactly the
instructions of the grammar** — the image of the parser — by their fields alone, so it is neither too weak (every
conforming instruction round-trips) nor too strong (nothing the parser can deliver is excluded). Likewise a stream of
conforming instructions is a `GrammarStream` and conversely, so `assemble_load`, `C01_reload_bytes` and `C06_roundtrip`
apply to modules whose instructions conform by their fields alone.

`TypedTables theTables` holds by kernel evaluation on the regenerated grammar table. At the end a concrete conforming
instruction, against vacuity.
-/
namespace Rspirv.Props.C02TypedConv
open Rspirv Rspirv.Model Rspirv.Model.Typed Rspirv.Props.C02 Rspirv.Props.C02Typed

/-- **the typing judgement is complete for the recogniser**: every instruction it delivers from 32-bit words conforms -/
theorem spec_typed (G : Tables) (good : GoodTables G) (τ : Tracker) (ws : List Nat) (i : Inst) (rest : List Nat)
    (h : Spec.inst G τ ws = some (i, rest)) (hw : WordsOk ws) : InstT G τ i :=
  spec_typed_len G good τ ws i rest h (Rspirv.Props.C01Layout.asm_len G good τ ws i rest h hw)

/-- `InstT` is exactly "delivered by the recogniser from some words, with an encoding that fits the word count" -/
theorem typed_iff_grammar (G : Tables) (tt : TypedTables G) (τ : Tracker) (i : Inst) :
    InstT G τ i ↔ (∃ ws rest, Spec.inst G τ ws = some (i, rest)) ∧ (assembleInst i).length < 65536 :=
  ⟨typed_grammar G tt τ i, fun ⟨⟨ws, rest, h⟩, hl⟩ => spec_typed_len G tt.good τ ws i rest h hl⟩

/-- **`InstT` is exactly "instruction of the grammar".** -/
theorem typed_iff (G : Tables) (tt : TypedTables G) (τ : Tracker) (i : Inst)
    (hw : WordsOk (assembleInst i)) :
    InstT G τ i ↔ (∃ rest, Spec.inst G τ (assembleInst i ++ rest) = some (i, rest)) ∧ (assembleInst i).length < 65536 :=
  (typed_iff_grammar G tt τ i).trans
    ⟨fun ⟨⟨ws, rest, h⟩, hl⟩ => ⟨⟨[], C02_spec G tt.good τ ws i rest h hl []⟩, hl⟩, fun ⟨⟨rest, h⟩, hl⟩ => ⟨⟨_, rest, h⟩, hl⟩⟩

end Rspirv.Props.C02TypedConv

namespace Rspirv.Props.C02TypedInst
open Rspirv Rspirv.Model Rspirv.Model.DState Rspirv.Model.Typed Rspirv.Instances Rspirv.Props.C02 Rspirv.Props.C02Typed
  Rspirv.Props.RoundTrip

theorem typed_tables : TypedTables theTables where
  good := good_tables
  specLast := by
    have : theTables.core.all (fun e => specLast theTables e.ops) = true := by decide +kernel
    exact fun e he => (List.all_eq_true.1 this) e he
  op16 := fun e he => (Rspirv.Props.C09.core_entry e he).1

theorem typedStream_grammar (G : Tables) (tt : TypedTables G) : ∀ (is : List Inst) (τ : Tracker),
    TypedStream G τ is → GrammarStream G τ is
  | [], _, _ => trivial
  | i :: t, τ, h => by
    obtain ⟨hi, τ1, ht, hrest⟩ := h
    obtain ⟨h1, h2⟩ := typed_grammar G tt τ i hi
    exact ⟨h1, h2, τ1, ht, typedStream_grammar G tt t τ1 hrest⟩

/-- **C02 on the tables of this tree, typing judgement.** -/
theorem C02_typed_spec (τ : Tracker) (i : Inst) (h : InstT theTables τ i) (r' : List Nat) :
    Spec.inst theTables τ (assembleInst i ++ r') = some (i, r') :=
  typed_spec theTables typed_tables τ i h r'

/-- **C02 for the parser, typing judgement.** A conforming instruction whose assembled words are 32-bit quantities, written
as little-endian bytes anywhere in a buffer (after `pre`, before the bytes of further words `r'`): `parse_inst` at that
position delivers exactly that instruction and stops in front of `r'`. -/
theorem C02_typed (τ : Tracker) (idx : Nat) (i : Inst) (h : InstT theTables τ i)
    (r' pre : List Nat) (hw : WordsOk (assembleInst i ++ r')) (hpre : ∀ b ∈ pre, b < 256)
    (hsmall : (pre ++ (assembleInst i ++ r').flatMap Spec.wordBytes).length < 2 ^ 63) :
    ∃ d', parseInst theTables τ idx ⟨pre ++ (assembleInst i ++ r').flatMap Spec.wordBytes, pre.length, none⟩ = (.ok i, d') ∧
      Rspirv.Props.ParserSpec.SView (pre ++ (assembleInst i ++ r').flatMap Spec.wordBytes) d' r' :=
  Rspirv.Props.C02.C02 τ idx (assembleInst i ++ []) i [] (C02_typed_spec τ i h []) (let ⟨_, _, _, _, _, hlen⟩ := h; hlen) r' pre hw hpre hsmall

/-- typed histories: `C06_roundtrip`'s grammar hypothesis follows from the typing of the module's instructions -/
theorem typedStream_grammar_inst (is : List Inst) (τ : Tracker) (h : TypedStream theTables τ is) :
    GrammarStream theTables τ is := typedStream_grammar theTables typed_tables is τ h

theorem typedStream_of_grammar (G : Tables) (tt : TypedTables G) : ∀ (is : List Inst) (τ : Tracker),
    GrammarStream G τ is → TypedStream G τ is
  | [], _, _ => trivial
  | i :: t, τ, h => by
    obtain ⟨⟨ws, rest, hs⟩, hlen, τ1, ht, hrest⟩ := h
    exact ⟨Rspirv.Props.C02TypedConv.spec_typed_len G tt.good τ ws i rest hs hlen, τ1, ht,
      typedStream_of_grammar G tt t τ1 hrest⟩

/-- `typedStream_of_grammar` under a hypothesis on the assembled words, which it does not use -/
theorem grammar_typedStream (G : Tables) (tt : TypedTables G) : ∀ (is : List Inst) (τ : Tracker),
    GrammarStream G τ is → (∀ i ∈ is, WordsOk (assembleInst i)) → TypedStream G τ is :=
  fun is τ h _ => typedStream_of_grammar G tt is τ h

/-- **every instruction `load_bytes` delivers conforms to the grammar** (typing judgement), the tracker following the stream -/
theorem delivered_typed (bytes : List Nat) (hb : ∀ b ∈ bytes, b < 256) (hs : bytes.length < 2 ^ 63) (m : Module Inst)
    (h : loadBytes theTables theLTables bytes = .ok m) :
    ∃ hd is, load theLTables hd is = .ok m ∧ Rspirv.Props.C01Full.Chunks is (Spec.streamWords bytes) ∧
      TypedStream theTables [] is := by
  obtain ⟨-, -, hall, hl⟩ :=
    Rspirv.Props.C01Full.loadBytes_insts theTables theLTables Rspirv.Props.C04.tables_safe bytes hb hs m h
  -- the delivered instructions are what the recogniser reads from the stream words
  exact ⟨_, _, hl, Rspirv.Props.C01Full.insts_chunks theTables good_tables _ [] _ hall,
    typedStream_of_grammar theTables typed_tables _ [] (Rspirv.Props.C01Layout.insts_stream theTables good_tables _ [] _
      (Rspirv.Props.C01Layout.streamWords_ok bytes hb))⟩

/-! ### non-vacuity: concrete conforming instructions on the tables of this tree -/

/-- `%1 = OpTypeInt 32 0` conforms -/
theorem typeInt_typed : InstT theTables [] ⟨21, none, some 1, [.w 59 32, .w 59 0]⟩ := by
  have hl : lookupOpcode theTables.core 21 = some ⟨95835015724232308, 21, [], [], [(57, 0), (61, 0), (61, 0)]⟩ := by
    decide +kernel
  have hk : theTables.kindActs[61]? = some (.elems [⟨59, 2, 0, 0⟩]) := by decide +kernel
  have c1 : (61 == theTables.kCtxNumber) = false := by decide +kernel
  have c2 : (61 == theTables.kPairLitId) = false := by decide +kernel
  have c3 : (61 == theTables.kSpecOp) = false := by decide +kernel
  have one : ∀ pre x, OneT theTables [] 21 none pre 61 [.w 59 x] := by
    intro pre x
    unfold OneT
    simp only [c1, c2, c3, Bool.false_eq_true, if_false]
    unfold OperandT
    rw [hk]
    exact ElemsT.cons ⟨rfl, by simp⟩ ElemsT.nil
  refine ⟨_, hl, ?_, ?_, ?_, by decide⟩
  · decide +kernel
  · decide +kernel
  · have hf : ([(57, 0), (61, 0), (61, 0)] : List (Nat × Nat)).filter (fun o => !isRes theTables o.1) = [(61, 0), (61, 0)] := by
      decide +kernel
    rw [hf]
    exact LoopT.step (g := [.w 59 32]) rfl (one _ _) (LoopT.step (g := [.w 59 0]) rfl (one _ _) LoopT.nil)

/-- and so it is read back from its four assembled words, whatever follows -/
example (r' : List Nat) : Spec.inst theTables [] (assembleInst ⟨21, none, some 1, [.w 59 32, .w 59 0]⟩ ++ r') =
    some (⟨21, none, some 1, [.w 59 32, .w 59 0]⟩, r') := C02_typed_spec [] _ typeInt_typed r'

end Rspirv.Props.C02TypedInst
