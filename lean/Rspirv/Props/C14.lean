import Rspirv.Props.Seq
/-!
# C14 — the parser drives the consumer in protocol order and obeys its actions

Statements about `Rspirv.Model.parse` for every table set, every byte string and every consumer behaviour
(`script k` = the consumer's answer to its `k`-th callback).
-/
namespace Rspirv.Props.C14
open Rspirv Rspirv.Model

/-- the event sequence has the protocol shape: `initialize`, then (if any) `header`, instructions, and at most one
final `finalize` -/
inductive Shape : List Ev → Prop where
  | init : Shape [.init]
  | insts (h : Header) (is : List Inst) : Shape (.init :: .header h :: is.map Ev.inst)
  | fin (h : Header) (is : List Inst) : Shape (.init :: .header h :: is.map Ev.inst ++ [.fin])

def isConsumerErr : PErr → Bool
  | .consumerStop => true
  | .consumerError _ => true
  | _ => false

/-- what the parse result must be when callback `k` is the last one made -/
def Obeys (script : Nat → Action) (r : Run) : Prop :=
  let n := r.trace.length
  (∀ j, j + 1 < n → script j = .continue_) ∧
  (∀ e, r.result = .err e → isConsumerErr e = true → n ≥ 1 ∧ consume (script (n - 1)) (n - 1) = some e) ∧
  (script (n - 1) ≠ .continue_ → n ≥ 1 → ∃ e, r.result = .err e ∧ consume (script (n - 1)) (n - 1) = some e) ∧
  (Ev.fin ∈ r.trace → r.result = .ok () ∨ ∃ e, r.result = .err e ∧ isConsumerErr e = true) ∧
  (r.result = .ok () → Ev.fin ∈ r.trace)

theorem consume_none (a : Action) (k : Nat) : consume a k = none ↔ a = .continue_ := by
  cases a <;> simp [consume]

theorem consume_some_isConsumer (a : Action) (k : Nat) (e : PErr) (h : consume a k = some e) : isConsumerErr e = true := by
  cases a <;> simp [consume] at h <;> subst h <;> rfl

structure Good (script : Nat → Action) (r : Run) : Prop where
  shape : Shape r.trace
  obeys : Obeys script r

/-- the statement proved for every run: protocol shape and obedience, unless the model reports a panic
(C04 shows separately that it never does) -/
def Spec (script : Nat → Action) (r : Run) : Prop := (∃ s, r.result = .panic s) ∨ Good script r

theorem good_consumer (script : Nat → Action) (tr : List Ev) (n : Nat) (e : PErr) (hs : Shape tr)
    (hl : tr.length = n + 1) (hall : ∀ j, j < n → script j = .continue_) (hc : consume (script n) n = some e) :
    Good script ⟨.err e, tr⟩ := by
  have hn : tr.length - 1 = n := by rw [hl]; rfl
  exact ⟨hs, fun j hj => hall j (Nat.lt_of_succ_lt_succ (hl ▸ hj : j + 1 < n + 1)),
    fun e' he' _ => by cases he'; exact ⟨hl ▸ Nat.succ_pos n, hn ▸ hc⟩,
    fun _ _ => ⟨e, rfl, hn ▸ hc⟩, fun _ => .inr ⟨e, rfl, consume_some_isConsumer _ _ _ hc⟩, fun hr => nomatch hr⟩

theorem good_parse_err (script : Nat → Action) (tr : List Ev) (e : PErr) (hs : Shape tr)
    (hall : ∀ j, j < tr.length → script j = .continue_) (hf : Ev.fin ∉ tr) (he : isConsumerErr e = false) :
    Good script ⟨.err e, tr⟩ := by
  refine ⟨hs, fun j hj => hall j (Nat.lt_of_succ_lt hj), ?_, ?_, fun hfin => absurd hfin hf, fun hr => nomatch hr⟩
  · intro e' he' hce; cases he'; rw [he] at hce; cases hce
  · intro hne hn; exact absurd (hall _ (Nat.sub_lt hn Nat.one_pos)) hne

theorem good_ok (script : Nat → Action) (tr : List Ev) (hs : Shape tr)
    (hall : ∀ j, j < tr.length → script j = .continue_) (hf : Ev.fin ∈ tr) : Good script ⟨.ok (), tr⟩ := by
  refine ⟨hs, fun j hj => hall j (Nat.lt_of_succ_lt hj), (fun _ he => nomatch he), ?_, fun _ => Or.inl rfl, fun _ => hf⟩
  intro hne hn; exact absurd (hall _ (Nat.sub_lt hn Nat.one_pos)) hne

/-- invariant of the instruction loop: the events so far (`tr`, newest first) are `init`, `header h` and the instruction
events of `is`, and every callback made so far (one per event) was answered `continue` -/
theorem loop_spec (G : Tables) (script : Nat → Action) (h : Header) (fuel : Nat) :
    ∀ (τ : Tracker) (idx : Nat) (d : DState) (tr : List Ev) (is : List Inst),
      tr.reverse = .init :: .header h :: is.map Ev.inst → (∀ j, j < tr.length → script j = .continue_) →
      Spec script (parseLoop G script fuel τ tr.length idx d tr) := by
  induction fuel with
  | zero => exact fun _ _ _ _ _ _ _ => Or.inl ⟨_, rfl⟩
  | succ fuel ih =>
    intro τ idx d tr is htr hall
    have hlen : ∀ e, (e :: tr).reverse.length = tr.length + 1 := fun e => by simp
    rw [parseLoop_succ]
    rcases parseInst G τ (idx + 1) d with ⟨i | e | s, d1⟩ <;> dsimp only
    · cases τ.track G.tt i with
      | none => exact Or.inl ⟨_, rfl⟩
      | some τ1 =>
        have htr1 : (Ev.inst i :: tr).reverse = .init :: .header h :: (is ++ [i]).map Ev.inst := by
          rw [List.reverse_cons, htr]; simp
        cases hc : consume (script tr.length) tr.length with
        | some e => exact Or.inr (good_consumer script _ _ e (htr1 ▸ Shape.insts h _) (hlen _) hall hc)
        | none =>
          exact ih τ1 (idx + 1) d1 _ _ htr1 (Nat.forall_lt_succ_right.2 ⟨hall, (consume_none _ _).1 hc⟩)
    · have hfin : Shape (Ev.fin :: tr).reverse := by rw [List.reverse_cons, htr]; exact Shape.fin h is
      split
      · cases hc : consume (script tr.length) tr.length with
        | some e => exact Or.inr (good_consumer script _ _ e hfin (hlen _) hall hc)
        | none =>
          exact Or.inr (good_ok script _ hfin (hlen _ ▸ Nat.forall_lt_succ_right.2 ⟨hall, (consume_none _ _).1 hc⟩)
            (by simp))
      · exact Or.inr (good_parse_err script _ _ (htr ▸ Shape.insts h is) (by rw [List.length_reverse]; exact hall)
          (by rw [htr]; simp) rfl)
    · exact Or.inl ⟨s, rfl⟩

theorem parseHeader_not_consumer (G : Tables) (d : DState) (e : PErr) (d1 : DState)
    (h : parseHeader G d = (.err e, d1)) : isConsumerErr e = false := by
  rcases parseHeader_cases G d with ⟨_, _, _, h'⟩ | ⟨_, _, _, _, _, he, h'⟩ | ⟨_, _, _, _, h'⟩ | ⟨_, _, _, h'⟩ <;>
    rw [h'] at h <;> cases h
  · rfl
  · rcases he with rfl | rfl <;> rfl

/-- **C14.** For every binary and every consumer behaviour: the callbacks are `initialize`, `header`, one per
instruction in stream order, `finalize`, each at most once, in that order; every callback but the last was answered
`continue`; a `stop`/`error` answer ends the parse at once with the corresponding result carrying the consumer's own
value; `finalize` is reached only if everything before succeeded, and a successful parse always reaches it; a parse
error never calls `finalize`. (Unless the model panics, which C04 excludes.) -/
theorem C14 (G : Tables) (script : Nat → Action) (bytes : List Nat) : Spec script (parse G script bytes) := by
  have c0 : consume (script 0) 0 = none → ∀ j, j < 1 → script j = .continue_ := fun h0 j hj =>
    Nat.lt_one_iff.1 hj ▸ (consume_none _ _).1 h0
  fun_cases parse G script bytes with
  | case1 e h0 =>
    exact .inr (good_consumer script [.init] 0 e Shape.init rfl (fun _ hj => absurd hj (Nat.not_lt_zero _)) h0)
  | case2 h0 h d1 _ e h1 => exact .inr (good_consumer script [.init, .header h] 1 e (Shape.insts h []) rfl (c0 h0) h1)
  | case3 h0 h d1 _ h1 =>
    exact loop_spec G script h (bytes.length + 1) [] 0 d1 [.header h, .init] [] rfl
      (Nat.forall_lt_succ_right.2 ⟨c0 h0, (consume_none _ _).1 h1⟩)
  | case4 h0 e d1 hh =>
    exact .inr (good_parse_err script [.init] e Shape.init (c0 h0) (by simp) (parseHeader_not_consumer G _ e d1 hh))
  | case5 h0 s _ _ => exact .inl ⟨s, rfl⟩

/-- corollary: a parse that ends without error made `finalize` its last callback, after every instruction -/
theorem C14_ok_trace (G : Tables) (script : Nat → Action) (bytes : List Nat)
    (h : (parse G script bytes).result = .ok ()) :
    ∃ hd is, (parse G script bytes).trace = .init :: .header hd :: List.map Ev.inst is ++ [.fin] := by
  rcases C14 G script bytes with ⟨s, hs⟩ | g
  · rw [h] at hs; cases hs
  · have hf := g.obeys.2.2.2.2 h
    have hs := g.shape
    generalize (parse G script bytes).trace = tr at hs hf
    cases hs with
    | init => simp at hf
    | insts hd is => simp at hf
    | fin hd is => exact ⟨hd, is, rfl⟩

/-- non-vacuity of `Shape` (what the three answers of a consumer do to trace and result is exercised by the driver in the
correspondence check) -/
example : Shape [.init] ∧ Shape (.init :: .header ⟨0, 0, 0, 0, 0⟩ :: [].map Ev.inst ++ [.fin]) :=
  ⟨Shape.init, Shape.fin _ []⟩

end Rspirv.Props.C14
