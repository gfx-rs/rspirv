import Rspirv.Props.C12
import Rspirv.Props.C15
/-!
# C06 — what a Builder history puts into the module

`step_mem`: every instruction of the module after a Builder call was in the module before the call, or is the
instruction that call emits (`emitted`, in `Props/BuilderStep.lean`: built from the call's own arguments and the id the
builder hands out). It is read off the `ModStep` that `C12.step_facts` gives for the call.
`run_all`: so a property of instructions that holds for what every call of a history emits holds for every instruction of the
module the history builds (`built_all`: from a new builder, for the traversal of what `Builder::module()` returns).
The namespace is `C06Emit`, which this file shares with `emitted` and with C06Emit.lean.
-/
namespace Rspirv.Props.C06Emit
open Rspirv Rspirv.Model

/-- the instructions of a function -/
def fnInsts (f : Function Inst) : List Inst :=
  f.def_.toList ++ f.params ++ f.blocks.flatMap (fun b => b.label.toList ++ b.insts) ++ f.end_.toList

/-- membership in the traversal, section by section -/
def Mem (m : Module Inst) (i : Inst) : Prop :=
  i ∈ m.capabilities ∨ i ∈ m.extensions ∨ i ∈ m.extInstImports ∨ i ∈ m.memoryModel.toList ∨ i ∈ m.entryPoints ∨
  i ∈ m.executionModes ∨ i ∈ m.debugStringSource ∨ i ∈ m.debugNames ∨ i ∈ m.debugModuleProcessed ∨ i ∈ m.annotations ∨
  i ∈ m.typesGlobalValues ∨ ∃ f ∈ m.functions, i ∈ fnInsts f

theorem mem_iff (m : Module Inst) (i : Inst) : i ∈ Rspirv.Props.C15.allInstIter m ↔ Mem m i := by
  rw [Rspirv.Props.C15.C15_explicit]
  simp only [List.mem_append, List.mem_flatMap, Mem, fnInsts, or_assoc]

/-- `m'` holds nothing but what `m` holds and `x` -/
def Adds (m m' : Module Inst) (x : List Inst) : Prop := ∀ i, Mem m' i → Mem m i ∨ i ∈ x

theorem mem_sect (m : Module Inst) (i : Inst) :
    Mem m i ↔ (∃ k, k ≤ 10 ∧ i ∈ m.sect k) ∨ ∃ f ∈ m.functions, i ∈ fnInsts f := by
  rw [← mem_iff, Rspirv.Props.C15.allInstIter_chain, funext Rspirv.Props.C15.chain_explicit, List.mem_append,
    List.mem_flatMap, List.mem_flatMap]
  refine or_congr (exists_congr fun k => and_congr_left fun _ => ?_) Iff.rfl
  rw [show Rspirv.Props.C15.layout = List.range 11 from rfl, List.mem_range, Nat.lt_succ_iff]

/-- it is enough to compare section by section and function by function -/
theorem adds_of_sect {m m' : Module Inst} {x : List Inst} (hs : ∀ k, k ≤ 10 → ∀ j ∈ m'.sect k, j ∈ m.sect k ∨ j ∈ x)
    (hf : ∀ f ∈ m'.functions, ∀ j ∈ fnInsts f, (∃ g ∈ m.functions, j ∈ fnInsts g) ∨ j ∈ x) : Adds m m' x := by
  intro j hj
  rw [mem_sect] at hj ⊢
  rcases hj with ⟨k, hk, h⟩ | ⟨f, hf', h⟩
  · exact (hs k hk j h).imp (fun h => Or.inl ⟨k, hk, h⟩) id
  · exact (hf f hf' j h).imp Or.inr id

theorem adds_push (m : Module Inst) (k : Nat) (i : Inst) : Adds m (m.push k i) [i] := by
  -- a section number above 10 files under `types_global_values`, section 10
  obtain ⟨k', hk', e⟩ : ∃ k', k' ≤ 10 ∧ m.push k i = m.push k' i := by
    rcases Nat.lt_or_ge k 11 with h | h
    · exact ⟨k, Nat.le_of_lt_succ h, rfl⟩
    · obtain ⟨n, rfl⟩ := Nat.exists_eq_add_of_le' h
      exact ⟨10, Nat.le_refl _, rfl⟩
  rw [e]
  refine adds_of_sect (fun j hj y hy => ?_) fun f hf y hy => Or.inl ⟨f, Module.push_functions m k' i ▸ hf, hy⟩
  rw [Module.sect_push m i hk' hj] at hy
  split at hy
  · split at hy
    · exact Or.inr hy
    · exact List.mem_append.1 hy
  · exact Or.inl hy

theorem adds_functions (m : Module Inst) (fs : List (Function Inst)) (x : List Inst)
    (h : ∀ f ∈ fs, ∀ i ∈ fnInsts f, (∃ g ∈ m.functions, i ∈ fnInsts g) ∨ i ∈ x) :
    Adds m { m with functions := fs } x :=
  adds_of_sect (fun k _ _ hj => Or.inl (Module.sect_functions m fs k ▸ hj)) h

theorem adds_fn_set (m : Module Inst) (k : Nat) (f f' : Function Inst) (x : List Inst) (hk : m.functions[k]? = some f)
    (h : ∀ i ∈ fnInsts f', i ∈ fnInsts f ∨ i ∈ x) : Adds m { m with functions := m.functions.set k f' } x := by
  apply adds_functions
  intro g hg i hi
  rcases List.mem_or_eq_of_mem_set hg with hg | rfl
  · exact Or.inl ⟨g, hg, hi⟩
  · exact (h i hi).imp (fun h1 => ⟨f, List.mem_of_getElem? hk, h1⟩) id

/-- the module after a call that goes through `insert_into_block` -/
theorem iib_module (r : BState × BOut) (f g : BState → BOut → BState × BOut)
    (hf : ∀ s2 o, (f s2 o).1.module = s2.module) : (f r.1 r.2).1.module = r.1.module := hf _ _

theorem _root_.Rspirv.Model.FnStep.adds {fn fn' : Function Inst} {x : List Inst} (h : FnStep fn fn' x) :
    ∀ i ∈ fnInsts fn', i ∈ fnInsts fn ∨ i ∈ x := by
  intro i hi
  cases h with
  | end_ e => exact (List.mem_append.1 hi).imp (List.mem_append_left _) id
  | param p => simp only [fnInsts, List.mem_append, List.mem_singleton] at hi ⊢; grind
  | block b => simp only [fnInsts, List.mem_append, List.flatMap_append, List.flatMap_singleton] at hi ⊢; grind
  | insts l x hb hl =>
    rename_i k blk
    simp only [fnInsts, List.mem_append, List.mem_flatMap] at hi ⊢
    rcases hi with ((h1 | h1) | ⟨b, hb', h1⟩) | h1
    · exact Or.inl (Or.inl (Or.inl (Or.inl h1)))
    · exact Or.inl (Or.inl (Or.inl (Or.inr h1)))
    · rcases List.mem_or_eq_of_mem_set hb' with hb' | rfl
      · exact Or.inl (Or.inl (Or.inr ⟨b, hb', h1⟩))
      · rcases h1 with h1 | h1
        · exact Or.inl (Or.inl (Or.inr ⟨blk, List.mem_of_getElem? hb, Or.inl h1⟩))
        · exact (hl i h1).imp (fun h2 => Or.inl (Or.inr ⟨blk, List.mem_of_getElem? hb, Or.inr h2⟩)) id
    · exact Or.inl (Or.inr h1)

theorem _root_.Rspirv.Model.ModStep.adds {B : BTables} {m m' : Module Inst} {x : List Inst} (h : ModStep B m m' x) :
    Adds m m' x := by
  cases h with
  | same | version => exact fun _ h => Or.inl h
  | push k i => exact adds_push _ k i
  | newFn d =>
    apply adds_functions
    intro g hg i hi
    rcases List.mem_append.1 hg with hg | hg
    · exact Or.inl ⟨g, hg, hi⟩
    · rw [List.mem_singleton.1 hg] at hi
      exact Or.inr (by simpa [fnInsts] using hi)
  | inFn fn' x hj hs => exact adds_fn_set _ _ _ _ _ hj hs.adds
  | tgv l i hl =>
    refine adds_of_sect (fun k _ j hj => ?_) fun f hf j hj => Or.inl ⟨f, hf, hj⟩
    rw [Module.sect_typesGlobalValues] at hj
    split at hj
    · subst k; exact (hl j hj).imp id List.mem_singleton.2
    · exact Or.inl hj

/-- **what a call adds.** Every instruction of the module after a Builder call was there before, or is the instruction the
call emits. -/
theorem step_mem (B : BTables) (s : BState) (c : Call) : Adds s.module (s.step B c).1.module (emitted B s c) :=
  (Rspirv.Props.C12.step_facts B s c).shape.adds

/-- every call of the history, in the state it is made in, emits only instructions satisfying `P` -/
def EmitsP (B : BTables) (P : Inst → Prop) : BState → List Call → Prop
  | _, [] => True
  | s, c :: cs => (∀ i ∈ emitted B s c, P i) ∧ EmitsP B P (s.step B c).1 cs

theorem run_all (B : BTables) (P : Inst → Prop) : ∀ (cs : List Call) (s : BState), (∀ i, Mem s.module i → P i) →
    EmitsP B P s cs → ∀ i, Mem (BState.run B s cs).1.module i → P i := by
  intro cs
  induction cs with
  | nil => exact fun _ h0 _ => h0
  | cons c cs ih => exact fun s h0 he => ih _ (fun i hi => (step_mem B s c i hi).elim (h0 i) (he.1 i)) he.2

theorem mem_finish (B : BTables) (s : BState) (i : Inst) : Mem (s.finish B) i ↔ Mem s.module i := by
  rw [BState.finish_eq]
  rfl

theorem mem_new (i : Inst) : ¬ Mem BState.new.module i := by
  simp [Mem, BState.new, fnInsts]

theorem built_all (B : BTables) (P : Inst → Prop) (cs : List Call) (he : EmitsP B P BState.new cs) :
    ∀ i ∈ Rspirv.Props.C15.allInstIter ((BState.run B BState.new cs).1.finish B), P i := by
  intro i hi
  rw [mem_iff, mem_finish] at hi
  exact run_all B P cs BState.new (fun j hj => absurd hj (mem_new j)) he i hi

end Rspirv.Props.C06Emit
