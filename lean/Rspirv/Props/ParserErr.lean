import Rspirv.Props.ParserSpec
import Rspirv.Props.SpecEq
/-!
# How the parser routines fail

One predicate, `Acct`, proved of every operand-level routine from its sequenced form (`Props/Seq.lean`) and a rule each for
`andThen`, for a test and for a value put through a function (`Acct.andThen`, `Acct.ite`, `Acct.map`), so that each proof is a
term of the shape of its routine. It says three things of a routine started in `d`:

* an error it returns has an operand-level kind (`OpErr`; `decodeElem_op`, `parseOne_op`, `loop_op`), so never
  `Complete` (`loop_nc`);
* a success keeps the end position the limit implies (`Keeps`: every unit of limit charged is a word consumed);
* an error carries a byte offset between the start and that end and the instruction number it was given (`Bounded`,
  `ErrAt`).

All three hold of every start state: the decoder requests they rest on (`C11.word_ok`, `C11.string_ok`, `C11.string_cases`)
need no condition on offset or buffer. The declarations keep the namespaces the checks know them by: `C03KindOp` (error
kinds), `ParserSpec` (`Keeps`, `Complete`, overrun), `ParserErr` (the rest).
-/

/-! ### the kind of an error -/

namespace Rspirv.Props.C03KindOp
open Rspirv Rspirv.Model Rspirv.Model.DState Rspirv.Props.C04 Rspirv.Props.C11 Rspirv.Props.ParserSpec

/-- the kinds reported from inside the operand loop -/
def OpLevel : IErr → Prop
  | .operandExpected _ _ => True
  | .operandExceeded _ _ => True
  | .operandError _ => True
  | .typeUnsupported _ _ => True
  | .specConstantOpIntegerIncorrect _ _ => True
  | .complete => False
  | .wordCountZero _ _ => False
  | .opcodeUnknown _ _ _ => False

/-- every error of a routine is operand-level -/
def OpErr {α : Type} (r : PRes IErr α × DState) : Prop := ∀ e d', r = (.err e, d') → OpLevel e

theorem OpErr.ok {α : Type} {a : α} {d : DState} : OpErr ((.ok a, d) : PRes IErr α × DState) := by
  intro e d' h; cases h

theorem OpErr.panic {α : Type} {s : String} {d : DState} : OpErr ((.panic s, d) : PRes IErr α × DState) := by
  intro e d' h; cases h

theorem OpErr.err {α : Type} {e : IErr} {d : DState} (h : OpLevel e) : OpErr ((.err e, d) : PRes IErr α × DState) := by
  intro e d' he; cases he; exact h

/-- an error handed on unchanged has the kind the callee gave it: closes `OpErr (.err x, d1)` from `h : OpErr r` with
`r = (.err x, d1)` among the hypotheses -/
macro "op_from " h:term : tactic =>
  `(tactic| (intro e d' he; cases he; exact $h _ _ (by assumption)))

theorem OpErr.andThen {α β : Type} {r : PRes IErr α × DState} {k : α → DState → PRes IErr β × DState} (h : OpErr r)
    (hk : ∀ a d, OpErr (k a d)) : OpErr (andThen r k) := by
  rcases hr : r with ⟨a | e | s, d⟩
  · exact hk a d
  · op_from h
  · exact OpErr.panic

end Rspirv.Props.C03KindOp

/-! ### the limit on successful paths -/

namespace Rspirv.Props.ParserSpec
open Rspirv Rspirv.Model Rspirv.Model.DState Rspirv.Props.C11 Rspirv.Props.C04

/-- On a successful path every unit of limit charged is a word consumed: the end position implied by the limit stays put.
`C11.Frame`, which holds of every path, failed ones included, only says that this position never moves forward. -/
structure Keeps (d d' : DState) : Prop where
  bytes : d'.bytes = d.bytes
  inv : C11.Inv d → C11.Inv d'
  mono : d.offset ≤ d'.offset
  pos : ∀ l, d.limit = some l → ∃ l', d'.limit = some l' ∧ d'.offset + 4 * l' = d.offset + 4 * l

theorem Keeps.refl (d : DState) : Keeps d d := ⟨rfl, id, Nat.le_refl _, fun l h => ⟨l, h, rfl⟩⟩

theorem Keeps.trans {a b c : DState} (h1 : Keeps a b) (h2 : Keeps b c) : Keeps a c :=
  ⟨h2.bytes.trans h1.bytes, fun h => h2.inv (h1.inv h), Nat.le_trans h1.mono h2.mono, fun l hl => by
    obtain ⟨l1, e1, p1⟩ := h1.pos l hl
    obtain ⟨l2, e2, p2⟩ := h2.pos l1 e1
    exact ⟨l2, e2, p2.trans p1⟩⟩

theorem Keeps.small {d d' : DState} (h : Keeps d d') (hs : Small d) : Small d' := hs.of_bytes h.bytes

theorem Keeps.of_adv {c : Nat} {d d' : DState} (h : Adv c d d') : Keeps d d' :=
  ⟨h.bytes, h.frame.inv, h.frame.mono, h.pos⟩

theorem word_keeps (d : DState) (v : Nat) (d' : DState) (h : word d = (.ok v, d')) : Keeps d d' := .of_adv (word_ok h).2

theorem string_keeps (d : DState) (bs : List Nat) (d' : DState) (h : DState.string d = (.ok bs, d')) : Keeps d d' :=
  let ⟨_, _, _, _, a⟩ := string_ok h
  .of_adv a

theorem typedReq_keeps (f : Nat → Option Nat) (site : String) (ev : Nat) (d : DState) (v : Nat) (d' : DState)
    (h : typedReq f site ev d = (.ok v, d')) : Keeps d d' := by
  rcases typedReq_cases f site ev d with ⟨w, _, _, hw, _, h'⟩ | ⟨_, _, _, _, h'⟩ | ⟨_, _, _, h'⟩ <;> rw [h'] at h <;> cases h
  exact word_keeps d w _ hw

end Rspirv.Props.ParserSpec

/-! ### where an error points -/

namespace Rspirv.Props.ParserErr
open Rspirv Rspirv.Model Rspirv.Model.DState Rspirv.Props.C11 Rspirv.Props.ParserSpec Rspirv.Props.C03KindOp

def DErr.offset : DErr → Nat
  | .streamExpected o => o
  | .limitReached o => o
  | .decodeStringFailed o => o
  | .unknown _ o _ => o

/-- the error points into `[lo, hi]` and, if it names an instruction, names `idx` -/
def ErrAt (lo hi idx : Nat) : IErr → Prop
  | .complete => True
  | .wordCountZero o i => lo ≤ o ∧ o ≤ hi ∧ i = idx
  | .opcodeUnknown o i _ => lo ≤ o ∧ o ≤ hi ∧ i = idx
  | .operandExpected o i => lo ≤ o ∧ o ≤ hi ∧ i = idx
  | .operandExceeded o i => lo ≤ o ∧ o ≤ hi ∧ i = idx
  | .typeUnsupported o i => lo ≤ o ∧ o ≤ hi ∧ i = idx
  | .specConstantOpIntegerIncorrect o i => lo ≤ o ∧ o ≤ hi ∧ i = idx
  | .operandError x => lo ≤ DErr.offset x ∧ DErr.offset x ≤ hi

theorem ErrAt.mono {lo hi lo' hi' idx : Nat} {e : IErr} (h : ErrAt lo hi idx e) (h1 : lo' ≤ lo) (h2 : hi ≤ hi') :
    ErrAt lo' hi' idx e := by
  cases e <;> simp only [ErrAt] at h ⊢ <;> omega

/-- errors of a routine started at `d` under limit `l` -/
def Bounded {α : Type} (idx : Nat) (d : DState) (r : PRes IErr α × DState) : Prop :=
  ∀ l, d.limit = some l → ∀ e d', r = (.err e, d') → ErrAt d.offset (d.offset + 4 * l) idx e

/-- a decoder error raised under limit `l` carries an offset inside the window of the limit -/
def InWindow (d : DState) (x : DErr) : Prop := ∀ l, d.limit = some l → d.offset ≤ DErr.offset x ∧ DErr.offset x ≤ d.offset + 4 * l

theorem word_err (d : DState) (x : DErr) (d' : DState) (h : word d = (.err x, d')) : InWindow d x := by
  intro l _
  obtain ⟨_, hx⟩ := word_fail_offset d x d' h
  rcases hx with rfl | rfl <;> simp [DErr.offset]

theorem string_err (d : DState) (x : DErr) (d' : DState) (h : DState.string d = (.err x, d')) : InWindow d x := by
  intro l hl
  have hlen := strSlice_length_limit hl
  rcases string_cases d with ⟨e, h', he⟩ | ⟨_, _, h', _⟩ | ⟨_, _, h', _⟩ <;> rw [h'] at h <;> cases h
  rcases he with rfl | rfl | ⟨rfl, _⟩ <;> simp only [DErr.offset] <;> omega

theorem typedReq_err (f : Nat → Option Nat) (site : String) (ev : Nat) (d : DState) (x : DErr) (d' : DState)
    (h : typedReq f site ev d = (.err x, d')) : InWindow d x := by
  intro l _
  rcases typedReq_cases f site ev d with ⟨_, _, _, _, _, h'⟩ | ⟨_, _, _, _, h'⟩ | ⟨_, _, _, h'⟩ <;> rw [h'] at h <;> cases h <;>
    exact ⟨Nat.le_refl _, Nat.le_add_right _ _⟩

/-- What is known of a routine started in `d`, whatever it returns: an error has an operand-level kind and points between
the start and the end position the limit implies; a success keeps that end position. -/
structure Acct {α : Type} (idx : Nat) (d : DState) (r : PRes IErr α × DState) : Prop where
  kind : OpErr r
  keeps : ∀ a d', r = (.ok a, d') → Keeps d d'
  bounded : Bounded idx d r

section Rules
variable {α β : Type} {idx : Nat} {d : DState} {r : PRes IErr α × DState} {k : α → DState → PRes IErr β × DState}

theorem Acct.ok {a : α} : Acct idx d ((.ok a, d) : PRes IErr α × DState) :=
  ⟨OpErr.ok, fun a' d' h => (by cases h; exact Keeps.refl d), fun l _ e d' h => (by cases h)⟩

theorem Acct.panic {d' : DState} {s : String} : Acct idx d ((.panic s, d') : PRes IErr α × DState) :=
  ⟨OpErr.panic, fun a' d' h => (by cases h), fun l _ e d' h => (by cases h)⟩

/-- an error raised on the spot, carrying the current offset -/
theorem Acct.err {e : IErr} (hk : OpLevel e) (h : ErrAt d.offset d.offset idx e) :
    Acct idx d ((.err e, d) : PRes IErr α × DState) :=
  ⟨OpErr.err hk, fun a' d' he => (by cases he),
    fun l _ e' d' he => (by cases he; exact h.mono (Nat.le_refl _) (Nat.le_add_right _ _))⟩

theorem Acct.req {r : Res α × DState}
    (hk : ∀ a d', r = (.ok a, d') → Keeps d d') (he : ∀ x d', r = (.err x, d') → InWindow d x) : Acct idx d (req r) := by
  rcases r with ⟨a | x | s, d1⟩
  · exact ⟨OpErr.ok, fun _ _ h => (by cases h; exact hk a d1 rfl), fun _ _ _ _ h => nomatch h⟩
  · exact ⟨OpErr.err trivial, fun _ _ h => (nomatch h), fun l hl _ _ h => (by cases h; exact he x d1 rfl l hl)⟩
  · exact Acct.panic

/-- the errors of a sequence are those of its first part, or those of the second, raised after a success of the first: from
there the bounds of the start still hold -/
theorem Bounded.andThen (h : Acct idx d r) (hk : ∀ a d1, Bounded idx d1 (k a d1)) : Bounded idx d (andThen r k) := by
  rcases r with ⟨a | e | s, d1⟩
  · intro l hl e d' he
    obtain ⟨l1, hl1, hp⟩ := (h.keeps a d1 rfl).pos l hl
    exact (hk a d1 l1 hl1 e d' he).mono (h.keeps a d1 rfl).mono (Nat.le_of_eq hp)
  · intro l hl e' d' he; cases he; exact h.bounded l hl e d1 rfl
  · intro l hl e' d' he; cases he

theorem Acct.andThen (h : Acct idx d r) (hk : ∀ a d1, Acct idx d1 (k a d1)) : Acct idx d (andThen r k) := by
  refine ⟨h.kind.andThen fun a d1 => (hk a d1).kind, ?_, Bounded.andThen h fun a d1 => (hk a d1).bounded⟩
  rcases r with ⟨a | e | s, d1⟩
  · exact fun b d' hb => (h.keeps a d1 rfl).trans ((hk a d1).keeps b d' hb)
  · intro b d' hb; cases hb
  · intro b d' hb; cases hb

theorem Acct.map {f : α → β} (h : Acct idx d r) : Acct idx d (Model.andThen r fun a d1 => (.ok (f a), d1)) :=
  h.andThen fun _ _ => Acct.ok

theorem Acct.ite {c : Prop} [Decidable c] {r' : PRes IErr α × DState} (h : Acct idx d r) (h' : Acct idx d r') :
    Acct idx d (if c then r else r') := by
  split <;> assumption

end Rules

variable {G : Tables} {idx : Nat} {d : DState}

theorem word_acct : Acct idx d (req (word d)) := Acct.req (word_keeps d) (word_err d)

theorem typedReq_acct {f : Nat → Option Nat} {site : String} {ev : Nat} : Acct idx d (req (typedReq f site ev d)) :=
  Acct.req (typedReq_keeps f site ev d) (typedReq_err f site ev d)

theorem string_acct : Acct idx d (req (DState.string d)) := Acct.req (string_keeps d) (string_err d)

theorem decodeElem_acct {e : Elem} : Acct idx d (decodeElem G e d) := by
  rw [decodeElem_eq]
  refine Acct.ite ?_ (Acct.ite ?_ (Acct.ite word_acct.map string_acct.map))
  · rcases G.enums[e.ix]? with _ | E
    · exact Acct.panic
    · exact typedReq_acct.map
  · rcases G.masks[e.ix]? with _ | M
    · exact Acct.panic
    · exact typedReq_acct.map

theorem decodeElems_acct : ∀ {es : List Elem} {d : DState}, Acct idx d (decodeElems G es d)
  | [], _ => Acct.ok
  | _ :: _, _ => by
    rw [decodeElems_cons]
    exact decodeElem_acct.andThen fun _ _ => decodeElems_acct.map

theorem parseOperand_acct {k : Nat} : Acct idx d (parseOperand G k d) := by
  have wp {e sel} : Acct idx d (withParams G e sel d) :=
    decodeElem_acct.andThen fun _ _ => decodeElems_acct.map
  rw [parseOperand_eq]
  split
  · exact Acct.panic
  · exact Acct.panic
  · exact decodeElems_acct
  · exact wp
  · exact wp

theorem parseLiteral_acct {τ : Tracker} {ty : Nat} : Acct idx d (parseLiteral G τ idx ty d) := by
  rcases C10.literal_cases G τ idx ty with ⟨_, h, _⟩ | ⟨_, h, _⟩ | ⟨_, h, _⟩ <;> rw [h]
  · rw [litOne_eq]; exact word_acct.map
  · rw [litTwo_eq]; exact word_acct.andThen fun _ _ => word_acct.map
  · exact Acct.err trivial ⟨Nat.le_refl _, Nat.le_refl _, rfl⟩

theorem parseMany_acct {k : Nat} : ∀ {fuel : Nat} {d : DState}, Acct idx d (parseMany G k fuel d)
  | 0, _ => Acct.panic
  | _ + 1, _ => by
    rw [parseMany_succ]
    exact Acct.ite Acct.ok (parseOperand_acct.andThen fun _ _ => parseMany_acct.map)

theorem nestedHere_acct {k q : Nat} : Acct idx d (nestedHere G k q d) :=
  Acct.ite parseOperand_acct (Acct.ite (Acct.ite Acct.ok parseOperand_acct) parseMany_acct)

theorem parseNested_acct : ∀ {ops : List (Nat × Nat)} {d : DState}, Acct idx d (parseNested G ops d)
  | [], _ => Acct.ok
  | (_, _) :: _, _ => by
    rw [parseNested_cons]
    exact Acct.ite parseNested_acct (nestedHere_acct.andThen fun _ _ => parseNested_acct.map)

theorem parseSpecConstantOp_acct : Acct idx d (parseSpecConstantOp G idx d) := by
  rw [parseSpecConstantOp_eq]
  refine word_acct.andThen fun number d1 => ?_
  rcases specOpEntry G number with _ | e
  · exact Acct.err trivial ⟨Nat.le_refl _, Nat.le_refl _, rfl⟩
  · exact parseNested_acct.map

theorem parseOne_acct {τ : Tracker} {opcode k : Nat} {a : Acc} : Acct idx d (parseOne G τ idx opcode k a d) := by
  rw [parseOne_eq]
  cases oneKind G k
  · exact word_acct.map
  · exact word_acct.map
  · refine Acct.ite Acct.panic ?_
    rcases a.rtype with _ | ty
    · exact Acct.panic
    · exact parseLiteral_acct.map
  · refine Acct.ite Acct.panic ?_
    rcases a.ops with _ | ⟨⟨v, sel⟩ | _ | _, _⟩ <;> try exact Acct.panic
    exact Acct.ite Acct.panic (parseLiteral_acct.andThen fun _ _ => word_acct.map)
  · exact parseSpecConstantOp_acct.map
  · exact parseOperand_acct.map

theorem loop_acct {τ : Tracker} {opcode : Nat} : ∀ {fuel : Nat} {ops : List (Nat × Nat)} {a : Acc} {d : DState},
    Acct idx d (parseOperandsLoop G τ idx opcode fuel ops a d)
  | 0, _, _, _ => Acct.panic
  | _ + 1, [], _, _ => Acct.ok
  | _ + 1, (_, _) :: _, _, _ => by
    rw [parseOperandsLoop_cons]
    exact Acct.ite (parseOne_acct.andThen fun _ _ => loop_acct)
      (Acct.ite (Acct.err trivial ⟨Nat.le_refl _, Nat.le_refl _, rfl⟩) Acct.ok)

/-- **where the error of `parse_inst` points.** Started between instructions at offset `start` on a whole first word `w0`,
an error other than `Complete` carries the instruction number `idx` (where the kind has one) and a byte offset inside
the instruction's declared extent `[start, start + 4 * (w0 >> 16)]`. -/
theorem parseInst_errAt (G : Tables) (τ : Tracker) (idx : Nat) (d : DState) (B : List Nat) (w0 : Nat) (t : List Nat)
    (hv : SView B d (w0 :: t)) (e : IErr) (d' : DState) (h : parseInst G τ idx d = (.err e, d')) :
    ErrAt d.offset (d.offset + 4 * (w0 / 65536)) idx e := by
  by_cases hwc : w0 / 65536 = 0
  · rw [parseInst_wc0 G τ idx hv hwc] at h; cases h; exact ⟨Nat.le_refl _, Nat.le_add_right _ _, rfl⟩
  rcases hlook : lookupOpcode G.core (w0 % 65536) with _ | ent
  · rw [parseInst_unknown G τ idx hv hwc hlook] at h; cases h; exact ⟨Nat.le_refl _, Nat.le_add_right _ _, rfl⟩
  rw [parseInst_known G τ idx hv hwc hlook] at h
  -- the operand loop runs under the limit `w0 / 65536 - 1` from behind the first word; left-over words are reported on the spot
  have := Bounded.andThen (loop_acct (d := inside d (w0 / 65536))) (fun a d3 l _ e d' h => by
    split at h <;> cases h; exact ⟨Nat.le_refl _, Nat.le_add_right _ _, rfl⟩) (w0 / 65536 - 1) rfl e d' h
  exact this.mono (Nat.le_add_right _ _) (Nat.le_of_eq (inside_end hwc _))

end Rspirv.Props.ParserErr


namespace Rspirv.Props.C03KindOp
open Rspirv Rspirv.Model Rspirv.Props.ParserSpec Rspirv.Props.ParserErr

theorem decodeElem_op (G : Tables) (e : Elem) (d : DState) : OpErr (decodeElem G e d) := (decodeElem_acct (idx := 0)).kind

theorem parseOne_op (G : Tables) (τ : Tracker) (idx opcode k : Nat) (a : Acc) (d : DState) :
    OpErr (parseOne G τ idx opcode k a d) := parseOne_acct.kind

theorem loop_op (G : Tables) (τ : Tracker) (idx opcode : Nat) : ∀ (fuel : Nat) (ops : List (Nat × Nat)) (a : Acc)
    (d : DState), OpErr (parseOperandsLoop G τ idx opcode fuel ops a d) :=
  fun _ _ _ _ => loop_acct.kind

/-- **non-zero word count, known opcode ⇒ operand-level kind** -/
theorem parseInst_opLevel {B : List Nat} (G : Tables) (τ : Tracker) (idx : Nat) (d : DState) (w0 : Nat) (t : List Nat)
    (hv : SView B d (w0 :: t)) (hwc : w0 / 65536 ≠ 0) (ent : Entry) (hl : lookupOpcode G.core (w0 % 65536) = some ent)
    (e : IErr) (d' : DState) (h : parseInst G τ idx d = (.err e, d')) : OpLevel e := by
  rw [parseInst_known G τ idx hv hwc hl] at h
  refine OpErr.andThen (loop_op G τ idx ent.opcode _ ent.ops _ _) (fun a d3 => ?_) e d' h
  split
  · exact OpErr.err trivial
  · exact OpErr.ok

end Rspirv.Props.C03KindOp

namespace Rspirv.Props.ParserSpec
open Rspirv Rspirv.Model Rspirv.Model.DState Rspirv.Props.C11 Rspirv.Props.C04 Rspirv.Props.C03KindOp Rspirv.Props.ParserErr

variable {B : List Nat}

/-! ### `Complete` is reported only at the end of the stream -/

/-- the routine does not fail with the end-of-stream marker -/
def NC {α : Type} (r : PRes IErr α × DState) : Prop := ∀ d', r ≠ (.err .complete, d')

theorem loop_nc (G : Tables) (τ : Tracker) (idx opcode : Nat) : ∀ (fuel : Nat) (ops : List (Nat × Nat)) (a : Acc)
    (d : DState), NC (parseOperandsLoop G τ idx opcode fuel ops a d) :=
  fun fuel ops a d d' h => loop_op G τ idx opcode fuel ops a d _ d' h

/-- `parse_inst` reports the end of the stream only when no whole word is left -/
theorem parseInst_complete (G : Tables) (τ : Tracker) (idx : Nat) (d : DState) (w0 : Nat) (t : List Nat)
    (hv : SView B d (w0 :: t)) : ∀ d', parseInst G τ idx d ≠ (.err .complete, d') := by
  intro d' h
  by_cases hwc : w0 / 65536 = 0
  · rw [parseInst_wc0 G τ idx hv hwc] at h; cases h
  rcases hl : lookupOpcode G.core (w0 % 65536) with _ | ent
  · rw [parseInst_unknown G τ idx hv hwc hl] at h; cases h
  · exact parseInst_opLevel G τ idx d w0 t hv hwc ent hl _ d' h

/-- at the end of the stream (fewer than four bytes left) `parse_inst` reports `Complete` -/
theorem parseInst_end (G : Tables) (τ : Tracker) (idx : Nat) (d : DState) (hv : SView B d []) :
    ∃ d', parseInst G τ idx d = (.err .complete, d') := by
  have htail := hv.tail
  rw [parseInst_eq]
  rw [word_eof hv.limit (by rw [hv.bytes]; simp only [List.length_nil] at htail; omega)]
  exact ⟨_, rfl⟩

/-! ### the `Keeps` half on its own (it does not depend on the instruction number, so `0` is given where none is at hand) -/

theorem decodeElem_keeps (G : Tables) (e : Elem) (d : DState) (o : Operand) (d' : DState)
    (h : decodeElem G e d = (.ok o, d')) : Keeps d d' := (decodeElem_acct (idx := 0)).keeps o d' h

theorem parseOperand_keeps (G : Tables) (k : Nat) (d : DState) (os : List Operand) (d' : DState)
    (h : parseOperand G k d = (.ok os, d')) : Keeps d d' := (parseOperand_acct (idx := 0)).keeps os d' h

theorem parseLiteral_keeps (G : Tables) (τ : Tracker) (idx ty : Nat) (d : DState) (o : Operand) (d' : DState)
    (h : parseLiteral G τ idx ty d = (.ok o, d')) : Keeps d d' := parseLiteral_acct.keeps o d' h

theorem parseMany_keeps (G : Tables) (k fuel : Nat) (d : DState) (os : List Operand) (d' : DState)
    (h : parseMany G k fuel d = (.ok os, d')) : Keeps d d' := (parseMany_acct (idx := 0)).keeps os d' h

theorem parseOne_keeps (G : Tables) (τ : Tracker) (idx opcode k : Nat) (a : Acc) (d : DState) (a1 : Acc) (d' : DState)
    (h : parseOne G τ idx opcode k a d = (.ok a1, d')) : Keeps d d' :=
  parseOne_acct.keeps a1 d' h

theorem loop_keeps (G : Tables) (τ : Tracker) (idx opcode : Nat) : ∀ (fuel : Nat) (ops : List (Nat × Nat)) (a : Acc)
    (d : DState), C11.Inv d → Small d → ∀ (a' : Acc) (d' : DState),
    parseOperandsLoop G τ idx opcode fuel ops a d = (.ok a', d') → Keeps d d' :=
  fun _ _ _ _ _ _ => loop_acct.keeps

/-- **an instruction whose declared extent runs past the end of the stream is never accepted** -/
theorem parseInst_overrun (G : Tables) (τ : Tracker) (idx : Nat) (d : DState) (w0 : Nat) (t : List Nat)
    (hv : SView B d (w0 :: t)) (hover : t.length < w0 / 65536 - 1) : ∀ i d', parseInst G τ idx d ≠ (.ok i, d') := by
  intro i d' h
  by_cases hwc : w0 / 65536 = 0
  · rw [parseInst_wc0 G τ idx hv hwc] at h; cases h
  rcases hlook : lookupOpcode G.core (w0 % 65536) with _ | ent
  · rw [parseInst_unknown G τ idx hv hwc hlook] at h; cases h
  rw [parseInst_known G τ idx hv hwc hlook] at h
  obtain ⟨a, d3, hr, h⟩ := andThen_eq_ok.1 h
  cases hlr : d3.limitReached <;> rw [hlr] at h
  · cases h
  -- all of the limit was consumed, so the loop read `w0 / 65536 - 1` words: more than the stream holds
  have kp := (loop_acct (idx := idx)).keeps a d3 hr
  obtain ⟨l3, hl3, hpos⟩ := kp.pos (w0 / 65536 - 1) rfl
  rw [eq_of_beq hlr] at hl3
  cases hl3
  have hi3 := kp.inv (hv.inside_inv _)
  have htail := hv.tail
  rw [C11.Inv, kp.bytes] at hi3
  simp only [inside, DState.setLimit, hv.bytes, List.length_cons] at hpos hi3 htail
  omega

/-- `parseInst_ref` whatever the declared extent: an instruction that runs past the end of the stream is accepted by neither side -/
theorem parseInst_agrees (G : Tables) (hc : coreKindsOk G = true) (τ : Tracker) (idx : Nat) (d : DState) (w0 : Nat)
    (t : List Nat) (hv : SView B d (w0 :: t)) :
    match Spec.inst G τ (w0 :: t) with
    | some (i, rest) => ∃ d', parseInst G τ idx d = (.ok i, d') ∧ SView B d' rest
    | none => ∀ i d', parseInst G τ idx d ≠ (.ok i, d') := by
  by_cases hfit : w0 / 65536 - 1 ≤ t.length
  · exact parseInst_ref G hc τ idx d w0 t hv hfit
  · rw [Spec.inst_overrun G τ w0 t (Nat.lt_of_not_le hfit)]
    exact parseInst_overrun G τ idx d w0 t hv (Nat.lt_of_not_le hfit)

end Rspirv.Props.ParserSpec
