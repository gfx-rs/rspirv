import Rspirv.Props.ParserErr
/-!
# C03 — the parser accepts exactly the grammar and reports the first malformed instruction

`Rspirv.Model.Spec` is the grammar as a recogniser over word lists (no buffer, offsets, limits, error kinds or panics;
readable in a few minutes). `Props/ParserSpec.lean` shows that every routine of the parser model refines it. Here the parse
loop (`C03_loop`: it delivers exactly the instructions `Spec.insts` recognises, in stream order, each once, then `finalize`
iff the whole stream was recognised, otherwise an instruction-level error other than `Complete`), acceptance of a whole
binary (`C03_accept`), where the error of a rejected one points (`C03_reject`; its kind: `Props/C03Kind.lean`), and short or
wrong headers (`C03_header_*`).
-/
namespace Rspirv.Props.C03
open Rspirv Rspirv.Model Rspirv.Model.DState Rspirv.Props.C11 Rspirv.Props.C04 Rspirv.Props.ParserSpec Rspirv.Props.ParserErr

variable {B : List Nat}

/-- **C03 (the parse loop is the recogniser).** -/
theorem C03_loop (G : Tables) (hT : tablesSafe G = true) : ∀ (fuel : Nat) (τ : Tracker) (k idx : Nat) (d : DState)
    (tr : List Ev) (ws : List Nat), SView B d ws → ws.length < fuel →
    (parseLoop G (fun _ => .continue_) fuel τ k idx d tr).trace =
      tr.reverse ++ (Spec.insts G fuel τ ws).1.map Ev.inst ++ (if (Spec.insts G fuel τ ws).2 = [] then [Ev.fin] else []) ∧
    ((parseLoop G (fun _ => .continue_) fuel τ k idx d tr).result = .ok () ↔ (Spec.insts G fuel τ ws).2 = []) ∧
    ((Spec.insts G fuel τ ws).2 ≠ [] →
      ∃ e dF w0 t, (parseLoop G (fun _ => .continue_) fuel τ k idx d tr).result = .err (.inst e) ∧ e ≠ .complete ∧
        (Spec.insts G fuel τ ws).2 = w0 :: t ∧ SView B dF (w0 :: t) ∧
        ErrAt dF.offset (dF.offset + 4 * (w0 / 65536)) (idx + (Spec.insts G fuel τ ws).1.length + 1) e ∧
        ∃ τF d1, parseInst G τF (idx + (Spec.insts G fuel τ ws).1.length + 1) dF = (.err e, d1))
  | 0, _, _, _, _, _, _, _, h => absurd h (Nat.not_lt_zero _)
  | fuel + 1, τ, k, idx, d, tr, ws, hv, hf => by
    have hc := tablesSafe.core hT
    obtain ⟨hnp, _, _, hok⟩ := parseInst_safe G hT τ (idx + 1) d hv.inv hv.isSmall hv.limit
    rw [parseLoop_succ]
    cases ws with
    | nil =>
      obtain ⟨d', hend⟩ := parseInst_end G τ (idx + 1) d hv
      rw [hend, Spec.insts_stop fuel rfl]
      exact ⟨by simp [consume], by simp [consume], fun h => absurd rfl h⟩
    | cons w0 t =>
      have hagree := parseInst_agrees G hc τ (idx + 1) d w0 t hv
      rcases hs : Spec.inst G τ (w0 :: t) with _ | ⟨i, rest⟩ <;> rw [hs] at hagree
      · rw [Spec.insts_stop fuel hs]
        rcases hr : parseInst G τ (idx + 1) d with ⟨i | e | site, d1⟩
        · exact absurd hr (hagree i d1)
        · have hne : e ≠ .complete := fun he => parseInst_complete G τ (idx + 1) d w0 t hv d1 (he ▸ hr)
          have hat := parseInst_errAt G τ (idx + 1) d B w0 t hv e d1 hr
          dsimp only
          rw [if_neg hne]
          exact ⟨by simp, by simp, fun _ => ⟨e, d, w0, t, rfl, hne, rfl, hv, hat, τ, d1, hr⟩⟩
        · rw [hr] at hnp; exact absurd rfl (hnp site)
      · obtain ⟨d', hr, hv'⟩ := hagree
        obtain ⟨τ1, ht⟩ := Option.isSome_iff_exists.1 (hok i (by rw [hr])).2.2
        obtain ⟨h1, h2, h3⟩ := C03_loop G hT fuel τ1 (k + 1) (idx + 1) d' (Ev.inst i :: tr) rest hv'
          (Nat.lt_of_lt_of_le (Spec.inst_shrinks G τ (w0 :: t) i rest hs) (Nat.le_of_lt_succ hf))
        rw [hr, Spec.insts_step fuel hs ht]
        dsimp only [consume]
        rw [ht]
        dsimp only
        -- the numbers of the later instructions, counted from this one and from the next
        have e1 : ∀ n, idx + (n + 1) + 1 = idx + 1 + n + 1 := fun n => by omega
        rw [List.length_cons, e1, h1, List.reverse_cons, List.map_cons, List.append_assoc tr.reverse, List.singleton_append]
        exact ⟨rfl, h2, h3⟩

/-- the state after a complete header, seen as a stream of instruction words -/
theorem header_sview (bytes : List Nat) (hb : ∀ b ∈ bytes, b < 256) (hs : bytes.length < 2 ^ 63) (h20 : 20 ≤ bytes.length) :
    ∃ ws d1, DState.words 5 (DState.new bytes) = (.ok ws, d1) ∧ SView bytes d1 (Spec.streamWords bytes) ∧
      ws = (List.range 5).map (fun i => le32 bytes (4 * i)) := by
  -- five successful word reads from an unlimited state at offset 0
  have step : ∀ o, o + 4 ≤ 20 → word (⟨bytes, o, none⟩ : DState) = (.ok (le32 bytes o), ⟨bytes, o + 4, none⟩) :=
    fun _ ho => word_unlimited rfl (Nat.le_trans ho h20)
  refine ⟨_, { bytes := bytes, offset := 20, limit := none }, ?_, ?_, rfl⟩
  · simp only [DState.words, DState.new, step 0 (by decide), step 4 (by decide), step 8 (by decide), step 12 (by decide),
      step 16 (by decide)]
    rfl
  · have hlen : (Spec.streamWords bytes).length = (bytes.length - 20) / 4 := by simp [Spec.streamWords]
    refine ⟨rfl, rfl, ?_, ?_, ?_, hb, hs⟩
    · rw [hlen]; show 20 + 4 * ((bytes.length - 20) / 4) ≤ bytes.length; omega
    · rw [hlen]; show bytes.length < 20 + 4 * ((bytes.length - 20) / 4) + 4; omega
    · intro k hk
      rw [hlen] at hk
      simp [Spec.streamWords, List.getD_eq_getElem?_getD, hk]

/-- the header `parse_header` hands to the consumer: rebuilt from the version (major and minor byte) and the bound -/
def headerOf (G : Tables) (bytes : List Nat) : Header :=
  ⟨G.magic, (le32 bytes 4 / 65536 % 256) * 65536 + (le32 bytes 4 / 256 % 256) * 256, 0x000f0000, le32 bytes 12, 0⟩

/-- with five header words, the magic number first, and a consumer that continues, the parse is the instruction loop
started behind the header -/
theorem parse_good_header (G : Tables) (bytes : List Nat) (hb : ∀ b ∈ bytes, b < 256) (hs : bytes.length < 2 ^ 63)
    (h20 : 20 ≤ bytes.length) (hmagic : le32 bytes 0 = G.magic) :
    ∃ d1, SView bytes d1 (Spec.streamWords bytes) ∧ parse G (fun _ => .continue_) bytes =
      parseLoop G (fun _ => .continue_) (bytes.length + 1) [] 2 0 d1 [.header (headerOf G bytes), .init] := by
  obtain ⟨ws, d1, hw, hv, hws⟩ := header_sview bytes hb hs h20
  refine ⟨d1, hv, Rspirv.Props.C10.C10_fresh G _ bytes _ d1 rfl rfl ?_⟩
  rcases parseHeader_cases G (DState.new bytes) with ⟨_, _, hw', _⟩ | ⟨_, _, _, hw', hne, _⟩ | ⟨_, _, hw', _, h⟩ | ⟨_, _, hw', _⟩ <;>
    rw [hw] at hw' <;> cases hw'
  · exact absurd (by rw [hws]; exact hmagic) hne
  · rw [h, hws]; rfl

theorem streamWords_length_lt (bytes : List Nat) : (Spec.streamWords bytes).length < bytes.length + 1 := by
  simp only [Spec.streamWords, List.length_map, List.length_range]; omega

/-- `C03_accept` with the header named: it is `headerOf` -/
theorem C03_accept_headerOf (G : Tables) (hT : tablesSafe G = true) (bytes : List Nat) (hb : ∀ b ∈ bytes, b < 256)
    (hs : bytes.length < 2 ^ 63) (h20 : 20 ≤ bytes.length) (hmagic : le32 bytes 0 = G.magic) :
    ((parse G (fun _ => .continue_) bytes).result = .ok () ↔
      (Spec.insts G (bytes.length + 1) [] (Spec.streamWords bytes)).2 = []) ∧
    (parse G (fun _ => .continue_) bytes).trace =
      .init :: .header (headerOf G bytes) :: (Spec.insts G (bytes.length + 1) [] (Spec.streamWords bytes)).1.map Ev.inst ++
        (if (Spec.insts G (bytes.length + 1) [] (Spec.streamWords bytes)).2 = [] then [Ev.fin] else []) := by
  obtain ⟨d1, hv, hp⟩ := parse_good_header G bytes hb hs h20 hmagic
  obtain ⟨h1, h2, _⟩ := C03_loop G hT (bytes.length + 1) [] 2 0 d1 [.header (headerOf G bytes), .init] _ hv
    (streamWords_length_lt bytes)
  rw [hp]
  exact ⟨h2, by rw [h1]; simp⟩

/-- **C03 (acceptance = grammar).** For every binary (bytes below 256, shorter than 2^63) and a consumer that always
continues: the parse succeeds iff the binary has five header words with the magic number first and the recogniser
`Spec.insts` consumes every instruction word; the consumer is handed `initialize`, the header, exactly the recognised
instructions in stream order, and `finalize` iff the parse succeeds. -/
theorem C03_accept (G : Tables) (hT : tablesSafe G = true) (bytes : List Nat) (hb : ∀ b ∈ bytes, b < 256)
    (hs : bytes.length < 2 ^ 63) (h20 : 20 ≤ bytes.length) (hmagic : le32 bytes 0 = G.magic) :
    ((parse G (fun _ => .continue_) bytes).result = .ok () ↔
      (Spec.insts G (bytes.length + 1) [] (Spec.streamWords bytes)).2 = []) ∧
    ∃ h, (parse G (fun _ => .continue_) bytes).trace =
      .init :: .header h :: (Spec.insts G (bytes.length + 1) [] (Spec.streamWords bytes)).1.map Ev.inst ++
        (if (Spec.insts G (bytes.length + 1) [] (Spec.streamWords bytes)).2 = [] then [Ev.fin] else []) :=
  let ⟨h2, h1⟩ := C03_accept_headerOf G hT bytes hb hs h20 hmagic
  ⟨h2, _, h1⟩

/-- **C03 (the first malformed instruction is reported).** If the recogniser stops before the end of the stream, at the
words `w0 :: t`, the parse ends with an instruction-level error (not `Complete`, no `finalize`) that carries — where its
kind has the field — the 1-based number of that instruction (the number of delivered instructions plus one), and a byte
offset inside its declared extent `[start, start + 4 * (w0 >> 16)]`, `start` being the offset of `w0` in the binary. -/
theorem C03_reject (G : Tables) (hT : tablesSafe G = true) (bytes : List Nat) (hb : ∀ b ∈ bytes, b < 256)
    (hs : bytes.length < 2 ^ 63) (h20 : 20 ≤ bytes.length) (hmagic : le32 bytes 0 = G.magic)
    (hrest : (Spec.insts G (bytes.length + 1) [] (Spec.streamWords bytes)).2 ≠ []) :
    ∃ e dF w0 t, (parse G (fun _ => .continue_) bytes).result = .err (.inst e) ∧ e ≠ .complete ∧
      (Spec.insts G (bytes.length + 1) [] (Spec.streamWords bytes)).2 = w0 :: t ∧ SView bytes dF (w0 :: t) ∧
      ErrAt dF.offset (dF.offset + 4 * (w0 / 65536))
        ((Spec.insts G (bytes.length + 1) [] (Spec.streamWords bytes)).1.length + 1) e ∧
      ∃ τF dF1, parseInst G τF ((Spec.insts G (bytes.length + 1) [] (Spec.streamWords bytes)).1.length + 1) dF = (.err e, dF1) := by
  obtain ⟨d1, hv, hp⟩ := parse_good_header G bytes hb hs h20 hmagic
  obtain ⟨_, _, h3⟩ := C03_loop G hT (bytes.length + 1) [] 2 0 d1 [.header (headerOf G bytes), .init] _ hv
    (streamWords_length_lt bytes)
  obtain ⟨e, dF, w0, t, r1, r2, r3, r4, r5, τF, dF1, r6⟩ := h3 hrest
  rw [hp]
  exact ⟨e, dF, w0, t, r1, r2, r3, r4, by simpa using r5, τF, dF1, by simpa using r6⟩

/-- fewer than five header words: rejected as an incomplete header, nothing but `initialize` is called -/
theorem C03_header_short (G : Tables) (bytes : List Nat) (h : bytes.length < 20) :
    ∃ e, (parse G (fun _ => .continue_) bytes).result = .err (.headerIncomplete e) ∧
      (parse G (fun _ => .continue_) bytes).trace = [.init] := by
  have hw : ∃ e d1, DState.words 5 (DState.new bytes) = (.err e, d1) := by
    obtain ⟨f, np, ok⟩ := words_spec 5 (DState.new bytes)
    rcases hr : DState.words 5 (DState.new bytes) with ⟨ws | e | s, d1⟩ <;> rw [hr] at f np ok
    · -- five words read would leave the offset, 20, inside the buffer
      have h1 := (ok ws rfl).2
      have h2 : d1.offset ≤ d1.bytes.length := f.inv (Nat.zero_le _)
      rw [f.bytes] at h2
      simp only [DState.new] at h1 h2
      omega
    · exact ⟨e, d1, rfl⟩
    · exact absurd rfl (np s)
  obtain ⟨e, d1, hw⟩ := hw
  rcases parseHeader_cases G (DState.new bytes) with ⟨_, _, hw', h⟩ | ⟨_, _, _, hw', _⟩ | ⟨_, _, hw', _⟩ | ⟨_, _, hw', _⟩ <;>
    rw [hw] at hw' <;> cases hw'
  refine ⟨e, ?_, ?_⟩ <;> simp [parse, consume, h]

/-- a complete header whose first word is not the magic number: rejected (byte-swapped magic is told apart) -/
theorem C03_header_magic (G : Tables) (bytes : List Nat) (hb : ∀ b ∈ bytes, b < 256) (hs : bytes.length < 2 ^ 63)
    (h20 : 20 ≤ bytes.length) (hmagic : le32 bytes 0 ≠ G.magic) :
    ((parse G (fun _ => .continue_) bytes).result = .err .headerIncorrect ∨
     (parse G (fun _ => .continue_) bytes).result = .err .endiannessUnsupported) ∧
    (parse G (fun _ => .continue_) bytes).trace = [.init] := by
  obtain ⟨ws, d1, hw, _, hws⟩ := header_sview bytes hb hs h20
  rcases parseHeader_cases G (DState.new bytes) with ⟨_, _, hw', _⟩ | ⟨_, _, e, hw', _, he, h⟩ | ⟨_, _, hw', hm, _⟩ | ⟨_, _, hw', _⟩ <;>
    rw [hw] at hw' <;> cases hw'
  · rcases he with rfl | rfl <;> simp [parse, consume, h]
  · exact absurd (by rw [← hm, hws]; rfl) hmagic

end Rspirv.Props.C03
