import Rspirv.Props.LoaderStep
/-!
# Canonical modules, finished and under construction

`Canon L m`: every section of `m` holds only instructions the loader files into that section when it meets them at
module level; every function has its `OpFunction`, its `OpFunctionEnd`, parameters that are `OpFunctionParameter`s, and
blocks that start with an `OpLabel` and end with their only termination instruction, everything in between being an
instruction the loader appends to an open block.

`Top`, `FnOpen`, `BlockOpen` say the same of a module under construction: its sections, its open function, its open block.
They make up the invariant of the loader's accepted steps (`Reload.CInv`) and of the Builder's plain calls (`C06Round.BInv`).
-/
namespace Rspirv.Props.Reload
open Rspirv Rspirv.Model

/-- the section the loader files an instruction of opcode `op` into when no function is open -/
def topDest (L : LTables) (op : Nat) : Option Nat :=
  match classify L op with
  | .sect k => some k
  | .line => some 10
  | .varOp => some 10
  | .undefOp => some 10
  | _ => none

/-- opcodes the loader appends to the open block -/
def inBlock (L : LTables) (op : Nat) : Bool :=
  match classify L op with
  | .other => true
  | .line => true
  | .varOp => true
  | .undefOp => true
  | _ => false

def BlockCanon (L : LTables) (b : Block Inst) : Prop :=
  ∃ l body t, b = ⟨some l, body ++ [t]⟩ ∧ classify L l.opcode = .label ∧ classify L t.opcode = .term ∧
    ∀ x ∈ body, inBlock L x.opcode = true

def FnCanon (L : LTables) (f : Function Inst) : Prop :=
  ∃ d e, f.def_ = some d ∧ f.end_ = some e ∧ classify L d.opcode = .fn ∧ classify L e.opcode = .fnEnd ∧
    (∀ p ∈ f.params, classify L p.opcode = .param) ∧ ∀ b ∈ f.blocks, BlockCanon L b

structure Canon (L : LTables) (m : Module Inst) : Prop where
  sects : ∀ k, k ≤ 10 → k ≠ 3 → ∀ i ∈ m.sect k, topDest L i.opcode = some k
  mm : ∀ i, m.memoryModel = some i → classify L i.opcode = .sect 3
  fns : ∀ f ∈ m.functions, FnCanon L f

/-- the instructions of every section, the memory model included, are destined to it -/
theorem Canon.sect_topDest {L : LTables} {m : Module Inst} (hc : Canon L m) {k : Nat} (hk : k ≤ 10) :
    ∀ i ∈ m.sect k, topDest L i.opcode = some k := by
  by_cases hk3 : k = 3
  · subst hk3
    intro i hi
    unfold topDest
    rw [hc.mm i (Option.mem_toList.1 hi)]
  · exact hc.sects k hk hk3

/-! ### the side conditions of `Step` in these terms -/

theorem pushAt_of_topDest {L : LTables} {i : Inst} {k : Nat} : topDest L i.opcode = some k → PushAt L i none none k := by
  unfold PushAt
  fun_cases topDest L i.opcode <;> rintro ⟨⟩ <;> simp [*]

theorem bodyAt_of_inBlock {L : LTables} {i : Inst} {f : Function Inst} : inBlock L i.opcode = true → BodyAt L i (some f) := by
  unfold BodyAt
  fun_cases inBlock L i.opcode <;> rintro ⟨⟩ <;> simp [*]

theorem topDest_of_pushAt {L : LTables} {i : Inst} {f b k} (h : PushAt L i f b k) : topDest L i.opcode = some k := by
  unfold topDest
  rcases h with hc | ⟨rfl, ⟨hc, _⟩ | ⟨hc | hc, _⟩⟩ <;> rw [hc]

theorem inBlock_of_bodyAt {L : LTables} {i : Inst} {f} (h : BodyAt L i f) : inBlock L i.opcode = true := by
  unfold inBlock
  rcases h with hc | hc | ⟨hc | hc, _⟩ <;> rw [hc]

theorem forall_mem_append_singleton {α} {P : α → Prop} {l : List α} {a : α} (hl : ∀ x ∈ l, P x) (ha : P a) :
    ∀ x ∈ l ++ [a], P x :=
  List.forall_mem_append.2 ⟨hl, List.forall_mem_singleton.2 ha⟩

/-- a destination at module level is a section, and section 3 is the destination of its own opcode only -/
theorem topDest_some {L : LTables} {op k : Nat} : topDest L op = some k → k ≤ 10 ∧ (k = 3 → classify L op = .sect 3) := by
  fun_cases topDest L op <;> rintro ⟨⟩
  · exact ⟨classify_sect_le L ‹_›, fun e => e ▸ ‹_›⟩
  all_goals exact ⟨Nat.le_refl 10, fun e => nomatch e⟩

end Rspirv.Props.Reload

/-! ### under construction

`sb` is the block the Builder has selected; the loader keeps its open block apart from its open function, whose blocks are all
finished (`sb = none`). -/
namespace Rspirv.Props.C06Round
open Rspirv Rspirv.Model Rspirv.Props.Reload

def BlockOpen (L : LTables) (b : Block Inst) : Prop :=
  ∃ l, b.label = some l ∧ classify L l.opcode = .label ∧ ∀ x ∈ b.insts, inBlock L x.opcode = true

/-- the blocks of the open function: all finished, or all finished but the selected last one -/
def Blocks (L : LTables) (bs : List (Block Inst)) : Option Nat → Prop
  | none => ∀ b ∈ bs, BlockCanon L b
  | some k => ∃ done b, bs = done ++ [b] ∧ k = done.length ∧ (∀ x ∈ done, BlockCanon L x) ∧ BlockOpen L b

def FnOpen (L : LTables) (f : Function Inst) (sb : Option Nat) : Prop :=
  ∃ d, f.def_ = some d ∧ classify L d.opcode = .fn ∧ (∀ p ∈ f.params, classify L p.opcode = .param) ∧
    Blocks L f.blocks sb

def Top (L : LTables) (m : Module Inst) : Prop :=
  (∀ k, k ≤ 10 → k ≠ 3 → ∀ i ∈ m.sect k, topDest L i.opcode = some k) ∧
  ∀ i, m.memoryModel = some i → classify L i.opcode = .sect 3

theorem BlockOpen.close {L : LTables} {b : Block Inst} (h : BlockOpen L b) {t : Inst} (ht : classify L t.opcode = .term) :
    BlockCanon L { b with insts := b.insts ++ [t] } := by
  obtain ⟨lb, e, hc, hi⟩ := h
  exact ⟨lb, b.insts, t, by rw [← e], hc, ht, hi⟩

/-- pushing an instruction into the section it is destined to keeps the sections canonical -/
theorem Top.push {L : LTables} {m : Module Inst} {i : Inst} {k : Nat} (h : Top L m) (ht : topDest L i.opcode = some k) :
    Top L (m.push k i) := by
  obtain ⟨hk, h3⟩ := topDest_some ht
  refine ⟨fun j hj hj3 => ?_, fun x hx => ?_⟩
  · rw [Module.sect_push_append m i hk hj (fun _ hj => absurd hj hj3)]
    by_cases hkj : k = j
    · rw [if_pos hkj]; exact forall_mem_append_singleton (h.1 j hj hj3) (hkj ▸ ht)
    · rw [if_neg hkj, List.append_nil]; exact h.1 j hj hj3
  · rw [Module.push_memoryModel] at hx
    by_cases hk3 : k = 3
    · rw [if_pos hk3] at hx; cases hx; exact h3 hk3
    · rw [if_neg hk3] at hx; exact h.2 x hx

end Rspirv.Props.C06Round

