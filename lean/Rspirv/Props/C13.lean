import Rspirv.Props.C12
/-!
# C13 — Builder id discipline: fresh ids, exact bound, deduplicated implicit types

Statements about the Builder model for every call history. Scope: the model's ids are naturals, so the statements describe
`Builder::id()` as long as the 32-bit id space is not exhausted (it overflows at `u32::MAX`, which no 32-bit implementation
can avoid).
-/
namespace Rspirv.Props.C13
open Rspirv Rspirv.Model

/-- `Builder::new_from_module`: continue at the header's bound -/
def fromModule (m : Module Inst) (bound : Nat) : BState := ⟨m, bound, none, none⟩

theorem start_ids : BState.new.nextId = 1 ∧ ∀ m b, (fromModule m b).nextId = b := ⟨rfl, fun _ _ => rfl⟩

/-- **C13 (monotone counter).** Every call leaves the next-id counter unchanged or advances it by exactly one. -/
theorem step_next (B : BTables) (s : BState) (c : Call) :
    (s.step B c).1.nextId = s.nextId ∨ (s.step B c).1.nextId = s.nextId + 1 :=
  (Rspirv.Props.C12.step_facts B s c).next

/-- ids allocated by `self.id()` along a history, in order: the old counter value at every advancing step -/
def freshIds (B : BTables) : BState → List Call → List Nat
  | _, [] => []
  | s, c :: cs =>
    (if (s.step B c).1.nextId = s.nextId + 1 then [s.nextId] else []) ++ freshIds B (s.step B c).1 cs

def finalNext (B : BTables) : BState → List Call → Nat
  | s, [] => s.nextId
  | s, c :: cs => finalNext B (s.step B c).1 cs

/-- **C13 (fresh ids).** Along any history the allocated ids are exactly the consecutive numbers from the starting
counter up to (excluding) the final counter: pairwise distinct, strictly increasing, starting at 1 for a new builder
and at the header bound for a continued module. -/
theorem C13_fresh (B : BTables) : ∀ (cs : List Call) (s : BState),
    freshIds B s cs = List.range' s.nextId (finalNext B s cs - s.nextId) ∧ s.nextId ≤ finalNext B s cs := by
  intro cs
  induction cs with
  | nil => exact fun s => ⟨by rw [finalNext, Nat.sub_self]; rfl, Nat.le_refl _⟩
  | cons c cs ih =>
    intro s
    obtain ⟨ih, hle⟩ := ih (s.step B c).1
    rw [freshIds, finalNext, ih]
    rcases step_next B s c with h | h <;> rw [h] at hle ⊢
    · rw [if_neg (Nat.ne_of_lt (Nat.lt_succ_self _))]
      exact ⟨rfl, hle⟩
    -- the count `finalNext … - s.nextId` is a successor
    · rw [if_pos rfl, ← Nat.succ_pred_eq_of_pos (Nat.sub_pos_of_lt hle)]
      exact ⟨rfl, Nat.le_of_succ_le hle⟩

/-- **C13 (bound).** `module()` writes the next id that would be allocated into the header bound; hence the bound
exceeds every id allocated along the history. -/
theorem C13_bound (B : BTables) (s : BState) :
    ((s.finish B).header.map (·.bound)) = some s.nextId := by
  rw [BState.finish_eq]
  rfl

theorem C13_bound_exceeds (B : BTables) (cs : List Call) (s : BState) :
    ∀ i ∈ freshIds B s cs, i < finalNext B s cs := by
  intro i hi
  rw [(C13_fresh B cs s).1] at hi
  have := (C13_fresh B cs s).2
  simp only [List.mem_range'_1] at hi
  omega

/-! ### type requests -/

def typeKeyMatch (op : Nat) (ops : List Operand) (t : Inst) : Option Nat :=
  if t.opcode == op && t.operands == ops then t.rid else none

/-- **C13 (type requests).** Without an explicit id: if an earlier declaration in `types_global_values` has the same
opcode and operands (and a result id) the request returns that id and changes nothing; otherwise exactly one
declaration with a fresh id is appended. With an explicit id: a declaration carrying that id is always appended. -/
theorem C13_typeRequest (B : BTables) (s : BState) (op : Nat) (ops : List Operand) :
    (∀ v, s.step B (.typeRequest op (some v) ops) =
      ({ s with module := s.module.push 10 ⟨op, none, some v, ops⟩ }, .id v)) ∧
    (∀ id, s.module.typesGlobalValues.findSome? (typeKeyMatch op ops) = some id →
      s.step B (.typeRequest op none ops) = (s, .id id)) ∧
    (s.module.typesGlobalValues.findSome? (typeKeyMatch op ops) = none →
      s.step B (.typeRequest op none ops) =
        ({ s with nextId := s.nextId + 1, module := s.module.push 10 ⟨op, none, some s.nextId, ops⟩ }, .id s.nextId)) := by
  refine ⟨fun v => rfl, ?_⟩
  -- `step` spells `typeKeyMatch op ops` out as a lambda
  unfold typeKeyMatch
  dsimp only [BState.step]
  exact ⟨fun id h => by rw [h], fun h => by rw [h]⟩

theorem typeKeyMatch_eq_some (op : Nat) (ops : List Operand) (t : Inst) (id : Nat) :
    typeKeyMatch op ops t = some id ↔ t.opcode = op ∧ t.operands = ops ∧ t.rid = some id := by
  simp only [typeKeyMatch, Option.ite_none_right_eq_some, Bool.and_eq_true, beq_iff_eq, and_assoc]

/-- the id returned for an existing declaration is the result id of the FIRST identical one -/
theorem C13_dedup_first (tgv : List Inst) (op : Nat) (ops : List Operand) (id : Nat)
    (h : tgv.findSome? (typeKeyMatch op ops) = some id) :
    ∃ t ∈ tgv, t.opcode = op ∧ t.operands = ops ∧ t.rid = some id := by
  obtain ⟨t, ht, hm⟩ := List.exists_of_findSome?_eq_some h
  exact ⟨t, ht, (typeKeyMatch_eq_some op ops t id).1 hm⟩

theorem tgv_push10 (m : Module Inst) (i : Inst) : (m.push 10 i).typesGlobalValues = m.typesGlobalValues ++ [i] := rfl

/-- keys (opcode, operands) of the declarations in `types_global_values` that carry a result id -/
def keys (tgv : List Inst) : List (Nat × List Operand) := (tgv.filter (·.rid.isSome)).map (fun t => (t.opcode, t.operands))

/-- **C13 (no duplicate implicit types).** If every declaration so far was requested implicitly (no two declarations
with the same opcode and operands), an implicit request keeps it that way. By induction a module whose types were all
requested implicitly never contains two identical type declarations. -/
theorem C13_nodup_step (B : BTables) (s : BState) (op : Nat) (ops : List Operand)
    (hn : (keys s.module.typesGlobalValues).Nodup) :
    (keys (s.step B (.typeRequest op none ops)).1.module.typesGlobalValues).Nodup := by
  cases hf : s.module.typesGlobalValues.findSome? (typeKeyMatch op ops) with
  | some id => rw [(C13_typeRequest B s op ops).2.1 id hf]; exact hn
  | none =>
    rw [(C13_typeRequest B s op ops).2.2 hf]
    show (keys (s.module.typesGlobalValues ++ [_])).Nodup
    rw [keys, List.filter_append, List.map_append]
    refine List.nodup_append.2 ⟨hn, List.pairwise_singleton .., fun a ha b hb heq => ?_⟩
    -- a declaration with this key and a result id exists, contradicting `findSome? = none`
    obtain ⟨t, ht, rfl⟩ := List.mem_map.1 ha
    obtain ⟨htm, hr⟩ := List.mem_filter.1 ht
    obtain ⟨id, hid⟩ := Option.isSome_iff_exists.1 hr
    cases heq.trans (List.mem_singleton.1 hb)
    cases (List.findSome?_eq_none_iff.1 hf t htm).symm.trans ((typeKeyMatch_eq_some _ _ t id).2 ⟨rfl, rfl, hid⟩)

theorem C13_nodup_run (B : BTables) : ∀ (reqs : List (Nat × List Operand)) (s : BState),
    (keys s.module.typesGlobalValues).Nodup →
    (keys (BState.run B s (reqs.map (fun r => Call.typeRequest r.1 none r.2))).1.module.typesGlobalValues).Nodup := by
  intro reqs
  induction reqs with
  | nil => exact fun s h => h
  | cons r rs ih => exact fun s h => ih _ (C13_nodup_step B s r.1 r.2 h)

/-- non-vacuity: the same request twice returns the same id and adds one declaration; a different request gets a
different id -/
example :
    (BState.run ⟨54, 56, 55, 248, 5, 4, 58, 0, 0⟩ BState.new [.typeRequest 21 none [.w 59 32, .w 59 0], .typeRequest 21 none [.w 59 32, .w 59 0],
      .typeRequest 21 none [.w 59 32, .w 59 1]]).2 = [.id 1, .id 1, .id 2] := by
  decide

end Rspirv.Props.C13
