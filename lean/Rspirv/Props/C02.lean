import Rspirv.Props.C02Typed
import Rspirv.Props.C02TypedConv
/-!
# C02 — assemble and parse are inverse to each other on the instructions of the grammar

The grammar is the recogniser `Rspirv.Model.Spec` (see `Props/C03.lean`: the parser accepts exactly what it accepts). An
instruction *of the grammar* is one the recogniser produces from some word list. For every such instruction `i`, the
words the assembler emits for `i`, followed by anything, are recognised again as exactly `i` with that continuation left
over (`C02_spec`), and the parser model, on the bytes of these words anywhere in a buffer, delivers `i`
(`C02_parseInst`; at the regenerated tables it is `C02` of `Props/C02Tables.lean`).

The proof is one family of lemmas `*_enc`: each `Spec` routine that succeeds on some words with value `x` succeeds with
the same `x` on `enc x ++ rest` for every continuation `rest`, where `enc` is the assembler's encoding (enumerants and
masks as their value, 64-bit literals low word first, strings NUL-terminated and zero-padded). Up to the runs of one
kind these are corollaries: what the routine returns is well typed (the first half of `*_inv`,
`Props/C02TypedConv.lean`), and what is well typed is read back from its encoding (`*_T`, `Props/C02Typed.lean`). From
the embedded operands of `OpSpecConstantOp` upwards the typing judgement does not say whether a variadic or absent
optional operand ended the run, so there the run itself is followed, the continuation being empty when the run left
nothing over.
-/
namespace Rspirv.Props.C02
open Rspirv Rspirv.Model Rspirv.Model.DState Rspirv.Model.Typed Rspirv.Props.C04 Rspirv.Props.ParserSpec
open Rspirv.Props.C02Typed Rspirv.Props.C02TypedConv

/-- **strings.** A recognised string is recognised again from its packed encoding, whatever follows. -/
theorem str_enc (ws bs rest : List Nat) (h : Spec.str ws = some (bs, rest)) (r' : List Nat) :
    Spec.str (packStr bs ++ r') = some (bs, r') :=
  str_T (str_conv ws bs rest h) r'

theorem elem_enc (G : Tables) (hex : EnumsExact G) (e : Elem) (ws : List Nat) (o : Operand) (rest : List Nat)
    (h : Spec.elem G e ws = some (o, rest)) (r' : List Nat) :
    Spec.elem G e (encodeOperand o ++ r') = some (o, r') :=
  elem_T (elem_inv hex h).1 r'

theorem elems_enc (G : Tables) (hex : EnumsExact G) (es : List Elem) (ws : List Nat) (os : List Operand) (rest : List Nat)
    (h : Spec.elems G es ws = some (os, rest)) (r' : List Nat) : Spec.elems G es (encOps os ++ r') = some (os, r') :=
  elems_T (elems_inv hex h).1 r'

theorem operand_enc (G : Tables) (hex : EnumsExact G) (k : Nat) (ws : List Nat) (os : List Operand) (rest : List Nat)
    (h : Spec.operand G k ws = some (os, rest)) (r' : List Nat) :
    Spec.operand G k (encOps os ++ r') = some (os, r') :=
  operand_T (operand_inv hex h).1 r'

theorem literal_enc (G : Tables) (τ : Tracker) (ty : Nat) (ws : List Nat) (o : Operand) (rest : List Nat)
    (h : Spec.literal G τ ty ws = some (o, rest)) (r' : List Nat) :
    Spec.literal G τ ty (encodeOperand o ++ r') = some (o, r') :=
  literal_T (literal_inv h).1 r'

theorem many_enc (G : Tables) (hex : EnumsExact G) (k : Nat) (hk : kindOk G k = true) : ∀ (fuel : Nat) (ws : List Nat)
    (os : List Operand), Spec.many G k fuel ws = some os → ∀ fuel', (encOps os).length < fuel' →
    Spec.many G k fuel' (encOps os) = some os :=
  fun _ _ _ h => many_T hk (many_inv hex h).1

variable {G : Tables}

theorem nestedHere_enc (hex : EnumsExact G) {k q : Nat} (hk : kindOk G k = true) {ws t : List Nat} {g : List Operand}
    (h : Spec.nestedHere G k q ws = some (g, t)) (r' : List Nat) (hr' : t = [] → r' = []) :
    Spec.nestedHere G k q (encOps g ++ r') = some (g, r') := by
  refine Spec.nestedHere_some.2 ?_
  obtain ⟨hq, h1⟩ | ⟨hq0, hq1, -, rfl, rfl⟩ | ⟨hq0, hq1, -, h1⟩ | ⟨hq0, hq1, h1, rfl⟩ := Spec.nestedHere_some.1 h
  · exact .inl ⟨hq, operand_enc G hex k ws g t h1 r'⟩
  · exact .inr (.inl ⟨hq0, hq1, by rw [hr' rfl]; rfl, rfl, hr' rfl⟩)
  · exact .inr (.inr (.inl ⟨hq0, hq1, by simp [encOps_ne (operandT_ne hk (operand_inv hex h1).1)],
      operand_enc G hex k ws g t h1 r'⟩))
  · rw [hr' rfl, List.append_nil]
    exact .inr (.inr (.inr ⟨hq0, hq1, many_enc G hex k hk _ ws g h1 _ (Nat.lt_succ_self _), rfl⟩))

/-- the embedded operands are recognised again from their encoding, followed by `r'` — which must be empty if the
original left nothing over (a variadic operand takes everything that follows) -/
theorem nested_enc (G : Tables) (hex : EnumsExact G) : ∀ (ops : List (Nat × Nat)) (ws : List Nat) (os : List Operand)
    (rest : List Nat), nestedOk G ops = true → Spec.nested G ops ws = some (os, rest) →
    ∀ r', (rest = [] → r' = []) → Spec.nested G ops (encOps os ++ r') = some (os, r') := by
  intro ops
  induction ops with
  | nil => intro _ _ _ _ h _ _; obtain ⟨rfl, -⟩ := Spec.nested_nil_some.1 h; rfl
  | cons o ops ih =>
    obtain ⟨k, q⟩ := o
    intro ws os rest hok h r' hr'
    obtain ⟨hok', hk⟩ := nestedOk_cons hok
    cases hres : (k == G.kIdResultType || k == G.kIdResult)
    case true => rw [Spec.nested_res hres] at h ⊢; exact ih ws os rest hok' h r' hr'
    obtain ⟨g, t, more, hh, h2, rfl⟩ := (Spec.nested_cons_some hres).1 h
    rw [encOps_append, List.append_assoc]
    refine (Spec.nested_cons_some hres).2 ⟨g, _, more, nestedHere_enc hex (hk hres) hh _ fun ht => ?_,
      ih t more rest hok' h2 r' hr', rfl⟩
    subst ht
    obtain ⟨rfl, rfl⟩ := (nested_inv hex h2).2.of_nil
    exact hr' rfl

theorem specOp_enc (G : Tables) (hc : coreKindsOk G = true) (hex : EnumsExact G) (ws : List Nat) (os : List Operand)
    (rest : List Nat) (h : Spec.specOp G ws = some (os, rest)) (r' : List Nat) (hr' : rest = [] → r' = []) :
    Spec.specOp G (encOps os ++ r') = some (os, r') ∧ os ≠ [] := by
  obtain ⟨e, t, os', rfl, h16, hlook, hctx, hn, rfl⟩ := Spec.specOp_some.1 h
  exact ⟨Spec.specOp_some.2 ⟨e, _, os', rfl, h16, hlook, hctx,
    nested_enc G hex e.ops t os' rest (nestedOk_of_core hc hlook hctx) hn r' hr', rfl⟩, by simp⟩

theorem oneReads_enc (hc : coreKindsOk G = true) (hex : EnumsExact G) {τ : Tracker} {opcode k : Nat} {a : Acc}
    {ws t : List Nat} {g : List Operand} (h : Spec.oneReads G τ opcode k a ws g t) (r' : List Nat) (hr' : t = [] → r' = []) :
    Spec.oneReads G τ opcode k a (encOps g ++ r') g r' :=
  ite_imp (fun _ ⟨hop, ty, o, hty, hg, hl⟩ => ⟨hop, ty, o, hty, hg, by rw [hg, encOps_one]; exact literal_enc G τ ty ws o t hl r'⟩)
    (fun _ => ite_imp (fun _ ⟨hop, sel, tl, lit, tgt, hpre, hg, hl⟩ => ⟨hop, sel, tl, lit, tgt, hpre, hg,
        by rw [hg, encOps_pair]; exact literal_enc G τ sel ws lit _ hl _⟩)
      fun _ => ite_imp (fun _ hs => (specOp_enc G hc hex ws g t hs r' hr').1) fun _ ho => operand_enc G hex k ws g t ho r') h

theorem one_enc (G : Tables) (hc : coreKindsOk G = true) (hex : EnumsExact G) (τ : Tracker) (opcode k : Nat) (a a1 : Acc)
    (ws t : List Nat) (h : Spec.one G τ opcode k a ws = some (a1, t))
    (hk : (k == G.kIdResultType || k == G.kIdResult || isCtxKind G k || kindOk G k) = true)
    (hrt : (k == G.kIdResultType) = true → a.rtype = none ∧ a.rid = none ∧ a.ops = [])
    (hrid : (k == G.kIdResult) = true → a.rid = none ∧ a.ops = []) :
    ∃ enc, enc ≠ [] ∧ accWords a1 = accWords a ++ enc ∧
      ∀ r', (t = [] → r' = []) → Spec.one G τ opcode k a (enc ++ r') = some (a1, r') := by
  cases k1 : k == G.kIdResultType with
  | true =>
    obtain ⟨w, rfl, rfl⟩ := (Spec.one_rtype_some k1).1 h
    obtain ⟨e1, e2, e3⟩ := hrt k1
    exact ⟨[w], by simp, by simp [accWords, e1, e2, e3, encOps], fun r' _ => (Spec.one_rtype_some k1).2 ⟨w, rfl, rfl⟩⟩
  | false =>
    cases k2 : k == G.kIdResult with
    | true =>
      obtain ⟨w, rfl, rfl⟩ := (Spec.one_rid_some k1 k2).1 h
      obtain ⟨e2, e3⟩ := hrid k2
      exact ⟨[w], by simp, by simp [accWords, e2, e3, encOps], fun r' _ => (Spec.one_rid_some k1 k2).2 ⟨w, rfl, rfl⟩⟩
    | false =>
      obtain ⟨g, hg, rfl⟩ := (Spec.one_some k1 k2).1 h
      exact ⟨encOps g, encOps_ne (oneT_ne (oneReads_inv hex hg).1 (by simpa [k1, k2] using hk)), accWords_ops a g,
        fun r' hr' => (Spec.one_some k1 k2).2 ⟨g, oneReads_enc hc hex hg r' hr', rfl⟩⟩

/-- what `LeadOk` gives one step of the operand loop: the side conditions of `one_enc`, and `LeadOk` afterwards -/
theorem leadOk_step (hne : (G.kIdResult == G.kIdResultType) = false) {τ : Tracker} {opcode k q : Nat}
    {rest : List (Nat × Nat)} {a a1 : Acc} {ws t : List Nat} (hlead : LeadOk G ((k, q) :: rest) a)
    (h1 : Spec.one G τ opcode k a ws = some (a1, t)) :
    ((k == G.kIdResultType) = true → a.rtype = none ∧ a.rid = none ∧ a.ops = []) ∧
    ((k == G.kIdResult) = true → a.rid = none ∧ a.ops = []) ∧
    LeadOk G (if q == 2 then (k, q) :: rest else rest) a1 := by
  obtain ⟨k1, -, rfl, e1, e2, e3, hl⟩ | ⟨k1, k2, rfl, e2, e3, hnr⟩ | hnr := leadOk_cons hne hlead
  · obtain ⟨w, -, rfl⟩ := (Spec.one_rtype_some k1).1 h1
    exact ⟨fun _ => ⟨e1, e2, e3⟩, fun _ => ⟨e2, e3⟩, hl w⟩
  · exact ⟨fun h => (by rw [k1] at h; cases h), fun _ => ⟨e2, e3⟩, leadOk_of_noRes hnr⟩
  · have hk := hnr (k, q) List.mem_cons_self
    refine ⟨fun h => (by rw [hk.1] at h; cases h), fun h => (by rw [hk.2] at h; cases h), leadOk_of_noRes ?_⟩
    split
    · exact hnr
    · exact hnr.tail

/-- **the operand loop on its own output's encoding.** If the loop collects `a'` from some words, leaving none, then the
words the assembler emits for what was collected are recognised as `a'` again, by the same loop with any sufficient fuel. -/
theorem loop_enc (G : Tables) (hc : coreKindsOk G = true) (hex : EnumsExact G) (τ : Tracker) (opcode : Nat)
    (hne : (G.kIdResult == G.kIdResultType) = false) :
    ∀ (fuel : Nat) (ops : List (Nat × Nat)) (a a' : Acc) (ws : List Nat),
    Spec.loop G τ opcode fuel ops a ws = some (a', []) → LeadOk G ops a → KindsOk G ops →
    ∃ E, accWords a' = accWords a ++ E ∧
      ∀ fuel', ops.length + E.length < fuel' → Spec.loop G τ opcode fuel' ops a E = some (a', []) := by
  intro fuel
  induction fuel with
  | zero => intro _ _ _ _ h; rw [Spec.loop_zero] at h; cases h
  | succ fuel ih =>
    intro ops a a' ws h hlead hkinds
    rcases ops with _ | ⟨⟨k, q⟩, rest⟩
    · rw [Spec.loop_nil] at h; cases h
      exact ⟨[], by simp, fun _ => Spec.loop_nil_pos⟩
    obtain ⟨rfl, hq, h⟩ | ⟨-, a1, t, h1, h2⟩ := Spec.loop_cons_some.1 h
    · cases h
      exact ⟨[], by simp, fun _ hf => Spec.loop_stop hf hq⟩
    · obtain ⟨hrt, hrid, hlead'⟩ := leadOk_step hne hlead h1
      obtain ⟨enc1, hne1, hacc1, hre1⟩ := one_enc G hc hex τ opcode k a a1 ws t h1 (hkinds _ List.mem_cons_self) hrt hrid
      obtain ⟨E2, hacc2, hre2⟩ := ih _ a1 a' t h2 hlead'
        (by split; exact hkinds; exact fun o ho => hkinds o (List.mem_cons_of_mem _ ho))
      refine ⟨enc1 ++ E2, by rw [hacc2, hacc1, List.append_assoc], Spec.loop_step hne1 (hre1 E2 ?_) hre2⟩
      rintro rfl
      obtain ⟨rfl, -⟩ := Spec.loop_noWords h2
      exact List.self_eq_append_right.1 hacc2

/-- **C02 (at the level of the grammar).** An instruction the recogniser produces is recognised again from the words
the assembler emits for it, followed by any continuation. -/
theorem C02_spec (G : Tables) (good : GoodTables G) (τ : Tracker) (ws : List Nat) (i : Inst) (rest : List Nat)
    (h : Spec.inst G τ ws = some (i, rest)) (hlen : (assembleInst i).length < 65536) (r' : List Nat) :
    Spec.inst G τ (assembleInst i ++ r') = some (i, r') := by
  obtain ⟨w0, t, e, a, rfl, -, hlook, -, hl, rfl, -⟩ := Spec.inst_some.1 h
  obtain ⟨hmem, hop⟩ := lookupOpcode_some _ _ _ hlook
  obtain ⟨E, hacc, hre⟩ := loop_enc G good.kinds good.enums τ e.opcode good.distinct _ e.ops _ a _ hl
    (leadOk_of_resultsLead (good.lead e hmem)) (good.kindsOk hmem)
  -- the empty accumulator has no words, so `hacc` says what `E` is
  obtain rfl : accWords a = E := hacc
  exact inst_assembled (by rw [hop]; exact hlook) (hop ▸ Nat.mod_lt w0 (by decide)) hlen hre r'

/-- a buffer made of `pre` followed by the bytes of `ws`, seen from the end of `pre` -/
theorem sview_of_words : ∀ (ws : List Nat) (pre : List Nat), WordsOk ws → (∀ b ∈ pre, b < 256) →
    (pre ++ ws.flatMap Spec.wordBytes).length < 2 ^ 63 →
    SView (pre ++ ws.flatMap Spec.wordBytes) ⟨pre ++ ws.flatMap Spec.wordBytes, pre.length, none⟩ ws := by
  intro ws pre hw hpre hsmall
  have hlen : (pre ++ ws.flatMap Spec.wordBytes).length = pre.length + 4 * ws.length := by
    rw [List.length_append, flatMap_wordBytes_length]
  refine ⟨rfl, rfl, Nat.le_of_eq hlen.symm, hlen ▸ Nat.lt_add_of_pos_right (by decide), fun k hk => ?_,
    fun b hb => (List.mem_append.1 hb).elim (hpre b) (flatMap_wordBytes_lt ws b), hsmall⟩
  rw [List.getD_eq_getElem?_getD, List.getElem?_eq_getElem hk]
  exact le32_flatMap pre ws hw k hk

/-- **C02, for every good table set.** Let `i` be an instruction of the grammar (recognised from some words under the
tracked types `τ`) whose encoding fits the 16-bit word count and consists of 32-bit words. Write the words the assembler
emits for `i` as little-endian bytes anywhere in a buffer, after `pre` and before the bytes of further words `r'`:
`parse_inst` at that position delivers exactly `i` and stops in front of `r'`. -/
theorem C02_parseInst (G : Tables) (good : GoodTables G) (τ : Tracker) (idx : Nat) (ws : List Nat) (i : Inst) (rest : List Nat)
    (h : Spec.inst G τ ws = some (i, rest)) (hlen : (assembleInst i).length < 65536)
    (r' pre : List Nat) (hw : WordsOk (assembleInst i ++ r')) (hpre : ∀ b ∈ pre, b < 256)
    (hsmall : (pre ++ (assembleInst i ++ r').flatMap Spec.wordBytes).length < 2 ^ 63) :
    ∃ d', parseInst G τ idx ⟨pre ++ (assembleInst i ++ r').flatMap Spec.wordBytes, pre.length, none⟩ = (.ok i, d') ∧
      SView (pre ++ (assembleInst i ++ r').flatMap Spec.wordBytes) d' r' := by
  have hspec := C02_spec G good τ ws i rest h hlen r'
  have hv := sview_of_words (assembleInst i ++ r') pre hw hpre hsmall
  obtain ⟨w0, body, hasm⟩ : ∃ w0 body, assembleInst i = w0 :: body := ⟨_, _, rfl⟩
  rw [hasm, List.cons_append] at hv hspec ⊢
  -- the recogniser succeeded, so the extent the first word declares lies inside the words
  obtain ⟨_, _, _, _, ht, -, -, hfit, -⟩ := Spec.inst_some.1 hspec
  cases ht
  have := parseInst_ref G good.kinds τ idx _ w0 (body ++ r') hv hfit
  rwa [hspec] at this

end Rspirv.Props.C02
