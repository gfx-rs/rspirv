import Rspirv.Props.C02Base
/-!
# C01, instruction level — word lists that encode an operand, an operand list, an instruction

`OpWords o ws`: the words `ws` are an encoding of operand `o` — the one word of a one-word operand, low and high word of
a 64-bit literal, and for a string as many words as its packed form has, whose bytes up to and including the NUL
terminator are the string followed by `0` (what follows the terminator inside the last word is free).
`Reads ws os rest`: `ws` begins with an encoding of the operands `os`, and `rest` follows it. `InstWords i ws`: first word
`word count << 16 | opcode` with the word count equal to `ws.length`, then result type, result id and operand encodings.

The assembler's output for `i` satisfies `InstWords i` (`assemble_words`). Two word lists with `InstWords i` have the
same length, first word, result type and result id (`instWords_agree`); operand by operand they are the same words,
except that inside a string only the bytes up to and including the NUL must agree (`opWords_agree`). That the words the
recogniser (hence, by `Props/ParserSpec.lean`, the parser) accepts as instruction `i` satisfy `InstWords i` is read off
its successful runs: `inst_words`, `parseInst_words` at the end of `Props/C02TypedConv.lean`.
-/
namespace Rspirv.Props.C01Words
open Rspirv Rspirv.Model Rspirv.Model.DState Rspirv.Props.C02

def OpWords : Operand → List Nat → Prop
  | .w _ x, ws => ws = [x]
  | .q v, ws => ∃ lo hi, ws = [lo, hi] ∧ v = (hi % 4294967296) * 4294967296 + lo % 4294967296
  | .s bs, ws => ws.length = bs.length / 4 + 1 ∧ (ws.flatMap Spec.wordBytes).take (bs.length + 1) = bs ++ [0]

inductive OpsWords : List Operand → List Nat → Prop
  | nil : OpsWords [] []
  | cons {o : Operand} {os : List Operand} {w ws : List Nat} : OpWords o w → OpsWords os ws → OpsWords (o :: os) (w ++ ws)

theorem OpsWords.append {a b : List Operand} {u v : List Nat} (h1 : OpsWords a u) (h2 : OpsWords b v) :
    OpsWords (a ++ b) (u ++ v) := by
  induction h1 with
  | nil => simpa using h2
  | cons ho _ ih => rw [List.cons_append, List.append_assoc]; exact OpsWords.cons ho ih

theorem OpsWords.single {o : Operand} {w : List Nat} (h : OpWords o w) : OpsWords [o] w :=
  List.append_nil w ▸ OpsWords.cons h .nil

theorem opWords_ne {o : Operand} {w : List Nat} (h : OpWords o w) : w ≠ [] := by
  rintro rfl
  cases o with
  | w _ x => cases h
  | q v => obtain ⟨_, _, h, _⟩ := h; cases h
  | s bs => cases h.1

/-- the words `ws` begin with an encoding of the operands `os`, and `rest` follows it -/
def Reads (ws : List Nat) (os : List Operand) (rest : List Nat) : Prop := ∃ used, ws = used ++ rest ∧ OpsWords os used

theorem Reads.nil {ws : List Nat} : Reads ws [] ws := ⟨[], rfl, .nil⟩

theorem Reads.op {o : Operand} {ws : List Nat} (n : Nat) (h : OpWords o (ws.take n)) : Reads ws [o] (ws.drop n) :=
  ⟨_, (List.take_append_drop n ws).symm, .single h⟩

theorem Reads.word (v w : Nat) (t : List Nat) : Reads (w :: t) [.w v w] t := .op 1 rfl

theorem Reads.all {os : List Operand} {ws : List Nat} : Reads ws os [] ↔ OpsWords os ws :=
  ⟨fun h => by obtain ⟨_, rfl, h⟩ := h; rwa [List.append_nil], fun h => ⟨ws, (List.append_nil _).symm, h⟩⟩

theorem Reads.seq {a b : List Operand} {ws t rest : List Nat} (h1 : Reads ws a t) (h2 : Reads t b rest) :
    Reads ws (a ++ b) rest := by
  obtain ⟨u1, rfl, w1⟩ := h1
  obtain ⟨u2, rfl, w2⟩ := h2
  exact ⟨u1 ++ u2, (List.append_assoc ..).symm, w1.append w2⟩

/-- nothing is read from no words: every operand occupies at least one -/
theorem Reads.of_nil {os : List Operand} {rest : List Nat} (h : Reads [] os rest) : os = [] ∧ rest = [] := by
  obtain ⟨used, e, hw⟩ := h
  obtain ⟨hu, rfl⟩ := List.append_eq_nil_iff.1 e.symm
  refine ⟨?_, rfl⟩
  cases hw with
  | nil => rfl
  | cons ho _ => exact absurd (List.append_eq_nil_iff.1 hu).1 (opWords_ne ho)

def InstWords (i : Inst) (ws : List Nat) : Prop :=
  ∃ w0 ops, ws = w0 :: (i.rtype.toList ++ i.rid.toList ++ ops) ∧ w0 / 65536 = ws.length ∧ w0 % 65536 = i.opcode ∧
    OpsWords i.operands ops

/-! ### the assembler's output is an encoding too -/

theorem packStr_words (bs : List Nat) (hb : ∀ b ∈ bs, b < 256) : OpWords (.s bs) (packStr bs) := by
  obtain ⟨h1, h2⟩ := packStr_spec bs hb
  refine ⟨h2, ?_⟩
  rw [h1, List.take_length_add_append]
  rfl

/-- operands whose strings are byte strings and whose 64-bit literals fit 64 bits -/
def OperandOk : Operand → Prop
  | .w _ _ => True
  | .q v => v < 18446744073709551616
  | .s bs => ∀ b ∈ bs, b < 256

theorem encodeOperand_words (o : Operand) (ho : OperandOk o) : OpWords o (encodeOperand o) := by
  cases o with
  | w v x => rfl
  | q v => exact ⟨v % 4294967296, v / 4294967296, rfl, q_words ho⟩
  | s bs => exact packStr_words bs ho

theorem encOps_words : ∀ (os : List Operand), (∀ o ∈ os, OperandOk o) → OpsWords os (encOps os)
  | [], _ => OpsWords.nil
  | o :: os, h =>
    .cons (encodeOperand_words o (h o List.mem_cons_self)) (encOps_words os fun x hx => h x (List.mem_cons_of_mem _ hx))

theorem opWords_ok (o : Operand) (w : List Nat) (h : OpWords o w) : OperandOk o := by
  cases o with
  | w v x => trivial
  | q v => obtain ⟨lo, hi, _, rfl⟩ := h; exact q_lt (by decide) lo hi
  | s bs =>
    intro b hb
    have hmem : b ∈ (w.flatMap Spec.wordBytes).take (bs.length + 1) := by rw [h.2]; simp [hb]
    exact flatMap_wordBytes_lt w b (List.mem_of_mem_take hmem)

theorem opsWords_ok : ∀ (os : List Operand) (ws : List Nat), OpsWords os ws → ∀ o ∈ os, OperandOk o := by
  intro os ws h
  induction h with
  | nil => exact fun _ h => nomatch h
  | cons ho _ ih => exact List.forall_mem_cons.2 ⟨opWords_ok _ _ ho, ih⟩

/-- **the assembler emits an encoding of the instruction** (for a word count that fits 16 bits) -/
theorem assemble_words (i : Inst) (hop : i.opcode < 65536) (hlen : (assembleInst i).length < 65536)
    (hops : ∀ o ∈ i.operands, OperandOk o) : InstWords i (assembleInst i) := by
  obtain ⟨w0, body, hasm, h1, h2, hbody⟩ := C02_first_word i hop hlen
  refine ⟨w0, encOps i.operands, ?_, h1, h2, encOps_words i.operands hops⟩
  rw [hasm, hbody]; rfl

/-! ### two encodings of the same instruction agree up to string padding -/

def opLen : Operand → Nat
  | .w _ _ => 1
  | .q _ => 2
  | .s bs => bs.length / 4 + 1

theorem opWords_len {o : Operand} {w : List Nat} (h : OpWords o w) : w.length = opLen o := by
  cases o with
  | w v x => exact congrArg List.length h
  | q v => obtain ⟨lo, hi, rfl, _⟩ := h; rfl
  | s bs => exact h.1

theorem opsWords_len {os : List Operand} {ws : List Nat} (h : OpsWords os ws) : ws.length = (os.map opLen).sum := by
  induction h with
  | nil => rfl
  | cons ho _ ih => rw [List.length_append, opWords_len ho, ih]; rfl

theorem opsWords_len_eq (os : List Operand) (a b : List Nat) (ha : OpsWords os a) (hb : OpsWords os b) :
    a.length = b.length :=
  (opsWords_len ha).trans (opsWords_len hb).symm

theorem InstWords.asm_length {i : Inst} {u : List Nat} (h : InstWords i u) : (assembleInst i).length = u.length := by
  obtain ⟨w0, ops, rfl, -, -, hops⟩ := h
  have hl : (i.operands.flatMap encodeOperand).length = ops.length :=
    opsWords_len_eq i.operands _ _ (encOps_words i.operands (opsWords_ok _ _ hops)) hops
  simp only [assembleInst, List.length_cons, List.length_append, hl]

/-- an encoding in 32-bit words carries a 16-bit word count and opcode in its first word -/
theorem InstWords.asm_lt {i : Inst} {u : List Nat} (h : InstWords i u) (hw : WordsOk u) :
    (assembleInst i).length < 65536 ∧ i.opcode < 65536 := by
  have hlen := h.asm_length
  obtain ⟨w0, ops, e, hc, hop, -⟩ := h
  have hw0 : w0 < 4294967296 := hw w0 (by rw [e]; simp)
  exact ⟨by rw [hlen, ← hc]; omega, by rw [← hop]; omega⟩

theorem opWords_agree (o : Operand) (u v : List Nat) (hu : OpWords o u) (hv : OpWords o v)
    (hwu : WordsOk u) (hwv : WordsOk v) :
    u.length = v.length ∧
    (match o with
     | .s bs => (u.flatMap Spec.wordBytes).take (bs.length + 1) = (v.flatMap Spec.wordBytes).take (bs.length + 1)
     | _ => u = v) := by
  refine ⟨(opWords_len hu).trans (opWords_len hv).symm, ?_⟩
  cases o with
  | w x y => exact hu.trans hv.symm
  | q x =>
    obtain ⟨lo, hi, rfl, f1⟩ := hu
    obtain ⟨lo', hi', rfl, f2⟩ := hv
    obtain ⟨rfl, rfl⟩ := q_inj (hwu lo (by simp)) (hwu hi (by simp)) f1
    obtain ⟨rfl, rfl⟩ := q_inj (hwv lo' (by simp)) (hwv hi' (by simp)) f2
    rfl
  | s bs => exact hu.2.trans hv.2.symm

/-- **C01 (instruction level).** Two word lists that both encode instruction `i` have the same length and the same
first word, result type and result id. (Operand by operand they agree by `opWords_agree`: equal words, except inside a
string where the bytes up to and including the NUL agree.) -/
theorem instWords_agree (i : Inst) (u v : List Nat) (hu : InstWords i u) (hv : InstWords i v)
    (hwu : WordsOk u) (hwv : WordsOk v) :
    u.length = v.length ∧ u.head? = v.head? ∧
    u.take (1 + i.rtype.toList.length + i.rid.toList.length) = v.take (1 + i.rtype.toList.length + i.rid.toList.length) := by
  have hlen : u.length = v.length := hu.asm_length.symm.trans hv.asm_length
  obtain ⟨w0, ops, rfl, c1, o1, -⟩ := hu
  obtain ⟨w0', ops', rfl, c2, o2, -⟩ := hv
  obtain rfl : w0 = w0' := by
    have a := hwu w0 List.mem_cons_self
    have b := hwv w0' List.mem_cons_self
    have : w0 / 65536 = w0' / 65536 := by rw [c1, c2, hlen]
    omega
  -- both sides are the first word, the result type and the result id
  have key (t : List Nat) : (w0 :: (i.rtype.toList ++ i.rid.toList ++ t)).take
      (1 + i.rtype.toList.length + i.rid.toList.length) = w0 :: (i.rtype.toList ++ i.rid.toList) := by
    rw [Nat.add_assoc, Nat.add_comm, List.take_succ_cons, List.take_left' List.length_append]
  exact ⟨hlen, rfl, (key ops).trans (key ops').symm⟩

end Rspirv.Props.C01Words
