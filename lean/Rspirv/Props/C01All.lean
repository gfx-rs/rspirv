import Rspirv.Props.C01
import Rspirv.Props.C01Words
import Rspirv.Props.RoundTrip
import Rspirv.Props.C01End
import Rspirv.Props.C01Full
/-! C01: module level (`Props/C01.lean`), instruction level (`Props/C01Words.lean`, the end of `Props/C02TypedConv.lean`) and reload (`Props/Reload.lean`,
`Props/RoundTrip.lean`) and the end-to-end statements (`Props/C01Full.lean`) together -/
