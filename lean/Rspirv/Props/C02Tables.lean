import Rspirv.Props.C02
import Rspirv.Props.C04Tables
import Rspirv.Props.C08
import Rspirv.Props.C09
/-!
# C02 at the tables regenerated from the working tree
-/
namespace Rspirv.Props.C02
open Rspirv Rspirv.Model Rspirv.Model.DState Rspirv.Model.Typed Rspirv.Props.C04 Rspirv.Props.ParserSpec

open Rspirv.Instances in
/-- the regenerated tables are good (C04's, C08's and C09's kernel-evaluated table checks) -/
theorem good_tables : GoodTables theTables := by
  refine ⟨?_, ?_, ?_, by decide⟩
  · exact tablesSafe.core tables_safe
  · intro E hE
    exact (Rspirv.Props.C08.enums_wf E hE).1
  · intro e he
    exact (Entry.wf_shape (Rspirv.Props.C09.core_entry e he).2).1

open Rspirv.Instances in
/-- **C02.** `C02_parseInst` at the tables regenerated from the working tree. -/
theorem C02 (τ : Tracker) (idx : Nat) (ws : List Nat) (i : Inst) (rest : List Nat)
    (h : Spec.inst theTables τ ws = some (i, rest)) (hlen : (assembleInst i).length < 65536)
    (r' pre : List Nat) (hw : WordsOk (assembleInst i ++ r')) (hpre : ∀ b ∈ pre, b < 256)
    (hsmall : (pre ++ (assembleInst i ++ r').flatMap Spec.wordBytes).length < 2 ^ 63) :
    ∃ d', parseInst theTables τ idx ⟨pre ++ (assembleInst i ++ r').flatMap Spec.wordBytes, pre.length, none⟩ = (.ok i, d') ∧
      SView (pre ++ (assembleInst i ++ r').flatMap Spec.wordBytes) d' r' :=
  C02_parseInst theTables good_tables τ idx ws i rest h hlen r' pre hw hpre hsmall

end Rspirv.Props.C02
