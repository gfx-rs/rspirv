import Rspirv.Model.Module
/- Generic list algebra behind C15: valid for every module value and every instruction type. `flatMap_congr'` is a plain
`List` fact that C01 and C07 use. -/
namespace Rspirv.Model
variable {ι : Type}

theorem flatMap_congr' {α β : Type} (f g : α → List β) (l : List α) (h : ∀ a ∈ l, f a = g a) : l.flatMap f = l.flatMap g :=
  congrArg List.flatten (List.map_congr_left h)

theorem Block.asm_eq (bo : List Nat) (asm : ι → List Nat) (b : Block ι) :
    Block.asm bo asm b = (Block.chain bo b).flatMap asm := by
  simp [Block.asm, Block.chain, List.flatMap_assoc]

theorem Function.asmPiece_eq (bo : List Nat) (asm : ι → List Nat) (f : Function ι) (p : Nat) :
    f.asmPiece bo asm p = (f.piece bo p).flatMap asm := by
  unfold Function.asmPiece Function.piece
  split
  · rfl
  · rfl
  · rw [List.flatMap_assoc]; congr 1; funext b; exact Block.asm_eq bo asm b
  · rfl
  · rfl

theorem Function.asm_eq (fo bo : List Nat) (asm : ι → List Nat) (f : Function ι) :
    Function.asm fo bo asm f = (Function.chain fo bo f).flatMap asm := by
  simp only [Function.asm, Function.chain, List.flatMap_assoc]
  congr 1; funext p; exact Function.asmPiece_eq bo asm f p

/-- the assembly of a module whose `assemble_into` runs "header, globals, functions" is the header words
followed by the assembly of every instruction of the all-instructions traversal, provided the traversal
chains the same sections and ends with the functions -/
theorem Module.asm_eq (ah go fo bo : List Nat) (asm : ι → List Nat) (m : Module ι) :
    Module.asm [0, 1, 2] ah go fo bo asm m =
      (m.header.map (Header.asm ah)).getD [] ++ (m.allChain go true fo bo).flatMap asm := by
  simp only [Module.asm, Module.allChain, List.flatMap_cons, List.flatMap_nil, List.append_nil, Module.asmPiece,
    if_true, List.flatMap_append, Module.globalChain, List.flatMap_assoc]
  congr 2
  congr 1; funext f; exact Function.asm_eq fo bo asm f

end Rspirv.Model
