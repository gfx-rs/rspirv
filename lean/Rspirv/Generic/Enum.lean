import Rspirv.Generic.Sort
/-
Generic model of the generated `spirv` enumerations and bit-masks, and the theorems that lift a
Boolean well-formedness check of the (regenerated) tables to all `n : Nat`.
-/
namespace Rspirv

/-- One arm of a generated `from_u32` match, in source order.
`range lo hi`  : `lo..=hi => transmute(n)`      (the value's discriminant is `n`)
`lit v k`      : `v => transmute(k)`            (discriminant `k`)
`named v nm`   : `v => Self::nm`                (discriminant = declared value of `nm`) -/
inductive Arm where
  | range (lo hi : Nat)
  | lit (v k : Nat)
  | named (v nm : Nat)
deriving Repr, DecidableEq

structure EnumSpec where
  name : Nat
  /-- declared variants `(name code, discriminant)` in declaration order -/
  decl : List (Nat × Nat)
  arms : List Arm
  /-- associated constants `(alias name, target variant name)` -/
  aliases : List (Nat × Nat)
  /-- `FromStr` arms `(string, variant name)` in source order -/
  fromStr : List (Nat × Nat)
  hasFromStr : Bool
deriving Repr

def lookupNat : List (Nat × Nat) → Nat → Option Nat
  | [], _ => none
  | (k, v) :: t, x => if k = x then some v else lookupNat t x

theorem lookupNat_eq_find? : ∀ (l : List (Nat × Nat)) (k : Nat), lookupNat l k = (l.find? (·.1 == k)).map (·.2)
  | [], _ => rfl
  | (k', v) :: t, k => by
    rw [lookupNat, List.find?_cons, lookupNat_eq_find? t k]
    by_cases h : k' = k
    · rw [if_pos h, beq_iff_eq.2 h]; rfl
    · rw [if_neg h, beq_false_of_ne h]

theorem lookupNat_mem : ∀ (l : List (Nat × Nat)) (k v : Nat), lookupNat l k = some v → (k, v) ∈ l := by
  intro l k v h
  rw [lookupNat_eq_find?] at h
  obtain ⟨p, hp, rfl⟩ := Option.map_eq_some_iff.1 h
  have hk : p.1 = k := by simpa using List.find?_some hp
  exact hk ▸ List.mem_of_find?_eq_some hp

theorem lookupNat_of_nodup (l : List (Nat × Nat)) (hn : (l.map (·.1)).Nodup) (k v : Nat) (h : (k, v) ∈ l) :
    lookupNat l k = some v := by
  rw [lookupNat_eq_find?, find?_key (·.1) hn h]; rfl

namespace EnumSpec

def declVals (E : EnumSpec) : List Nat := E.decl.map (·.2)

/-- discriminant of the value an arm yields on `n`, if it matches -/
def armHit (E : EnumSpec) (n : Nat) : Arm → Option Nat
  | .range lo hi => if lo ≤ n ∧ n ≤ hi then some n else none
  | .lit v k => if n = v then some k else none
  | .named v nm => if n = v then lookupNat E.decl nm else none

/-- `E::from_u32(n)`: first matching arm (Rust `match` semantics); the result is the discriminant
of the produced value (`transmute` is the identity on the representation of a `#[repr(u32)]` enum). -/
def fromU32 (E : EnumSpec) (n : Nat) : Option Nat := E.arms.findSome? (E.armHit n)

/-- numbers an arm accepts, paired with the discriminant it produces (ranges are capped so that a
runaway arm such as `0..=u32::MAX` fails the check instead of exhausting memory) -/
def armPairs (E : EnumSpec) : Arm → Option (List (Nat × Nat))
  | .range lo hi => if hi - lo < 65536 then some ((List.range' lo (hi + 1 - lo)).map (fun n => (n, n))) else none
  | .lit v k => some [(v, k)]
  | .named v nm => (lookupNat E.decl nm).map (fun k => [(v, k)])

def allPairs (E : EnumSpec) : List Arm → Option (List (Nat × Nat))
  | [] => some []
  | a :: t => match E.armPairs a, allPairs E t with
    | some x, some y => some (x ++ y)
    | _, _ => none

/-- Boolean well-formedness of `from_u32` against the declaration:
every accepted number yields itself, and the accepted numbers are exactly the declared discriminants. -/
def rangesExact (E : EnumSpec) : Bool :=
  match E.allPairs E.arms with
  | none => false
  | some ps => ps.all (fun p => p.1 == p.2) && sameSet (ps.map (·.1)) E.declVals

theorem armHit_pairs (E : EnumSpec) (a : Arm) (ps : List (Nat × Nat)) (h : E.armPairs a = some ps)
    (n d : Nat) : E.armHit n a = some d ↔ (n, d) ∈ ps := by
  cases a with
  | range lo hi =>
    simp only [armPairs] at h
    split at h <;> cases h
    have mem {m} : m ∈ List.range' lo (hi + 1 - lo) ↔ lo ≤ m ∧ m ≤ hi := by rw [List.mem_range'_1]; omega
    simp only [armHit, Option.ite_none_right_eq_some, List.mem_map, mem, Prod.mk.injEq, Option.some.injEq]
    exact ⟨fun ⟨hr, e⟩ => ⟨n, hr, rfl, e⟩, fun ⟨m, hm, e1, e2⟩ => ⟨e1 ▸ hm, e1 ▸ e2⟩⟩
  | lit v k =>
    cases h
    simp only [armHit, Option.ite_none_right_eq_some, List.mem_singleton, Prod.mk.injEq, Option.some.injEq]
    exact and_congr_right fun _ => eq_comm
  | named v nm =>
    simp only [armPairs, Option.map_eq_some_iff] at h
    obtain ⟨k, hl, rfl⟩ := h
    simp only [armHit, hl, Option.ite_none_right_eq_some, List.mem_singleton, Prod.mk.injEq, Option.some.injEq]
    exact and_congr_right fun _ => eq_comm

/-- `allPairs` is the graph of the arms: `(n, d)` is listed iff some arm turns `n` into `d` -/
theorem mem_allPairs (E : EnumSpec) (arms : List Arm) (ps : List (Nat × Nat)) (h : E.allPairs arms = some ps) (n d : Nat) :
    (n, d) ∈ ps ↔ ∃ a ∈ arms, E.armHit n a = some d := by
  fun_induction allPairs E arms generalizing ps with
  | case1 => cases h; simp
  | case2 a t x y ht ha ih =>
    cases h
    simp only [List.mem_append, ← armHit_pairs E a x ha, ih y ht, List.mem_cons, exists_eq_or_imp]
  | case3 => cases h

/-- **G-ranges.** If the Boolean check passes, `from_u32` accepts exactly the declared discriminants
and the value it returns converts back to the number it was made from — for every natural number. -/
theorem fromU32_exact (E : EnumSpec) (h : E.rangesExact = true) (n : Nat) :
    ((E.fromU32 n).isSome ↔ n ∈ E.declVals) ∧ (∀ d, E.fromU32 n = some d → d = n) := by
  unfold rangesExact at h
  cases hp : E.allPairs E.arms with
  | none => simp [hp] at h
  | some ps =>
    simp only [hp, Bool.and_eq_true, List.all_eq_true, beq_iff_eq] at h
    obtain ⟨hdiag, hset⟩ := h
    have graph := mem_allPairs E E.arms ps hp n
    constructor
    · rw [← (perm_of_sameSet _ _ hset).mem_iff, fromU32, List.findSome?_isSome_iff]
      simp only [Option.isSome_iff_exists, List.mem_map, Prod.exists, exists_and_right, exists_eq_right, graph]
      exact ⟨fun ⟨a, ha, d, hd⟩ => ⟨d, a, ha, hd⟩, fun ⟨d, a, ha, hd⟩ => ⟨a, ha, d, hd⟩⟩
    · intro d hd
      obtain ⟨a, ha, had⟩ := List.exists_of_findSome?_eq_some hd
      exact (hdiag (n, d) ((graph d).2 ⟨a, ha, had⟩)).symm

/-! ### names -/

/-- `s.parse::<E>()`: first matching string arm; result = name of the variant. -/
def fromStrName (E : EnumSpec) (s : Nat) : Option Nat := lookupNat E.fromStr s

/-- value of an associated constant or variant name -/
def valueOf (E : EnumSpec) (nm : Nat) : Option Nat := lookupNat E.decl nm

/-- Boolean check for the name clauses: the strings of the `FromStr` arms are pairwise distinct, and among the arms
are, in declaration order, `(v, v)` for every declared variant `v` and `(a, t)` for every alias `a` of `t` (inclusion
only: further arms are not excluded). -/
def namesExact (E : EnumSpec) : Bool :=
  !E.hasFromStr ||
  (nodupCheck (E.fromStr.map (·.1)) &&
   (E.decl.map (fun d => (d.1, d.1))).isSublist E.fromStr &&
   E.aliases.isSublist E.fromStr)

theorem namesExact_spec (E : EnumSpec) (hf : E.hasFromStr = true) (h : E.namesExact = true) :
    (E.fromStr.map (·.1)).Nodup ∧ (E.decl.map (fun d => (d.1, d.1))).Sublist E.fromStr ∧ E.aliases.Sublist E.fromStr := by
  simp only [namesExact, hf, Bool.not_true, Bool.false_or, Bool.and_eq_true] at h
  exact ⟨nodup_of_check _ h.1.1, List.isSublist_iff_sublist.1 h.1.2, List.isSublist_iff_sublist.1 h.2⟩

/-- **Names.** With the Boolean check: the textual (Debug) name of every declared variant parses back to
that variant, and every declared alias parses to the variant it aliases. -/
theorem names_exact (E : EnumSpec) (hf : E.hasFromStr = true) (h : E.namesExact = true) :
    (∀ d ∈ E.decl, E.fromStrName d.1 = some d.1) ∧
    (∀ a ∈ E.aliases, E.fromStrName a.1 = some a.2) := by
  obtain ⟨nd, hd, hal⟩ := E.namesExact_spec hf h
  exact ⟨fun d hd' => lookupNat_of_nodup _ nd _ _ (hd.subset (List.mem_map.2 ⟨d, hd', rfl⟩)),
    fun a ha => lookupNat_of_nodup _ nd _ _ (hal.subset ha)⟩

/-- with the name check the declared variant names are pairwise different: they are among the `FromStr` strings -/
theorem declNames_nodup (E : EnumSpec) (hf : E.hasFromStr = true) (h : E.namesExact = true) :
    (E.decl.map (·.1)).Nodup := by
  obtain ⟨nd, hd, _⟩ := E.namesExact_spec hf h
  have hs := hd.map (·.1)
  rw [List.map_map] at hs
  exact nd.sublist hs

end EnumSpec

/-! ### bit-masks -/

/-- `n` has no bit outside `m` (what `from_bits` tests, and what makes a word a legal mask payload) -/
theorem and_eq_left_iff_testBit {n m : Nat} : n &&& m = n ↔ ∀ i, n.testBit i = true → m.testBit i = true := by
  rw [Nat.eq_iff_testBit_eq]
  exact forall_congr' fun i => by rw [Nat.testBit_and]; cases n.testBit i <;> simp

/-- bit `i` of an or-fold is set iff it is set in one of the folded numbers (`MaskSpec.allBits`, `rowBits`) -/
theorem testBit_foldr_or {α} (f : α → Nat) (l : List α) (i : Nat) :
    (l.foldr (fun x acc => f x ||| acc) 0).testBit i = l.any (fun x => (f x).testBit i) := by
  induction l with
  | nil => simp
  | cons x t ih => simp [Nat.testBit_or, ih]

structure MaskSpec where
  name : Nat
  consts : List (Nat × Nat)
deriving Repr

namespace MaskSpec

def allBits (M : MaskSpec) : Nat := M.consts.foldr (fun c acc => c.2 ||| acc) 0

/-- `bitflags` 2.x `from_bits`: accepted iff no bit outside `all()` is set (documented semantics; probed
by the extractor on every single bit, on `all()` and on seeded combinations). -/
def fromBits (M : MaskSpec) (n : Nat) : Option Nat := if n &&& M.allBits = n then some n else none

theorem testBit_allBits (M : MaskSpec) (i : Nat) :
    M.allBits.testBit i = M.consts.any (fun c => c.2.testBit i) := testBit_foldr_or (fun c : Nat × Nat => c.2) M.consts i

/-- **G-mask.** A number is accepted iff every set bit of it is a bit of some declared constant. -/
theorem fromBits_exact (M : MaskSpec) (n : Nat) :
    ((M.fromBits n).isSome ↔ ∀ i, n.testBit i = true → ∃ c ∈ M.consts, c.2.testBit i = true) ∧
    (∀ v, M.fromBits n = some v → v = n) := by
  unfold fromBits
  refine ⟨?_, fun v hv => (Option.some.inj (Option.ite_none_right_eq_some.1 hv).2).symm⟩
  simp only [Option.isSome_ite, and_eq_left_iff_testBit, testBit_allBits, List.any_eq_true]

end MaskSpec
end Rspirv
