import Rspirv.Generic.Sort
/- Grammar tables: schema, lookup model, entry well-formedness, and the generic lookup lemmas. -/
namespace Rspirv

/-- A grammar entry. `ops` are `(operand kind index, quantifier)` with quantifier 0 = One, 1 = ZeroOrOne,
2 = ZeroOrMore. Names are name codes. -/
structure Entry where
  name : Nat
  opcode : Nat
  caps : List Nat
  exts : List Nat
  ops : List (Nat × Nat)
deriving Repr, DecidableEq

/-- `iter().find(|e| e.opcode == n)` -/
def lookupOpcode (t : List Entry) (n : Nat) : Option Entry := t.find? (fun e => e.opcode == n)

theorem lookupOpcode_some (t : List Entry) (n : Nat) (e : Entry) (h : lookupOpcode t n = some e) :
    e ∈ t ∧ e.opcode = n := by
  unfold lookupOpcode at h
  exact ⟨List.mem_of_find?_eq_some h, by simpa using List.find?_some h⟩

theorem lookupOpcode_isSome (t : List Entry) (n : Nat) :
    (lookupOpcode t n).isSome ↔ n ∈ t.map (·.opcode) := by
  unfold lookupOpcode
  rw [List.find?_isSome]
  simp only [List.mem_map, beq_iff_eq]

/-- With pairwise distinct opcodes the entry found is *the* entry with that opcode. -/
theorem lookupOpcode_unique (t : List Entry) (hn : (t.map (·.opcode)).Nodup) (e : Entry) (he : e ∈ t) :
    lookupOpcode t e.opcode = some e := find?_key Entry.opcode hn he

/-! ### entry well-formedness (C09) -/

/-- kinds and quantifiers as the table check sees them -/
structure KindIx where
  idResultType : Nat
  idResult : Nat

def quantOne : Nat := 0
def quantOpt : Nat := 1
def quantMany : Nat := 2

/-- no `IdResultType`/`IdResult` in the list -/
def noResultKinds (K : KindIx) (ops : List (Nat × Nat)) : Bool :=
  ops.all (fun o => o.1 != K.idResultType && o.1 != K.idResult)

/-- at most one result type immediately followed by at most one result id, both at the front and both
required (quantifier One) -/
def resultsLead (K : KindIx) : List (Nat × Nat) → Bool
  | [] => true
  | o :: t =>
    if o.1 == K.idResultType then
      o.2 == quantOne &&
      (match t with
       | [] => true
       | o2 :: t2 => if o2.1 == K.idResult then o2.2 == quantOne && noResultKinds K t2 else noResultKinds K (o2 :: t2))
    else if o.1 == K.idResult then o.2 == quantOne && noResultKinds K t
    else noResultKinds K (o :: t)

/-- once an operand is optional or variadic no later operand is required; a variadic operand is last -/
def quantShape : List (Nat × Nat) → Bool
  | [] => true
  | o :: t =>
    if o.2 == quantOne then quantShape t
    else if o.2 == quantOpt then t.all (fun p => p.2 != quantOne) && quantShape t
    else o.2 == quantMany && t.isEmpty

def Entry.wf (K : KindIx) (nkinds : Nat) (e : Entry) : Bool :=
  resultsLead K e.ops && quantShape e.ops && e.ops.all (fun o => decide (o.1 < nkinds) && decide (o.2 ≤ 2))

/-- declarative reading of `quantShape`, used to state C09 -/
def QuantShape (ops : List (Nat × Nat)) : Prop :=
  (∀ i j, i < j → ∀ hi : i < ops.length, ∀ hj : j < ops.length, ops[i].2 ≠ quantOne → ops[j].2 ≠ quantOne) ∧
  (∀ i, ∀ hi : i < ops.length, ops[i].2 = quantMany → i + 1 = ops.length) ∧
  (∀ o ∈ ops, o.2 = quantOne ∨ o.2 = quantOpt ∨ o.2 = quantMany)

/-- each clause of `QuantShape` relates an operand to the later ones, which is what the recursion of `quantShape` checks -/
theorem QuantShape.of_pairwise {ops : List (Nat × Nat)}
    (hp : ops.Pairwise fun a b => (a.2 ≠ quantOne → b.2 ≠ quantOne) ∧ a.2 ≠ quantMany)
    (hq : ∀ o ∈ ops, o.2 = quantOne ∨ o.2 = quantOpt ∨ o.2 = quantMany) : QuantShape ops := by
  rw [List.pairwise_iff_getElem] at hp
  refine ⟨fun i j hij hi hj => (hp i j hi hj hij).1, fun i hi hm => ?_, hq⟩
  by_cases h : i + 1 < ops.length
  · exact absurd hm (hp i (i + 1) hi h (Nat.lt_succ_self i)).2
  · omega

theorem quantShape_pairwise (ops : List (Nat × Nat)) (h : quantShape ops = true) :
    ops.Pairwise (fun a b => (a.2 ≠ quantOne → b.2 ≠ quantOne) ∧ a.2 ≠ quantMany) ∧
    ∀ o ∈ ops, o.2 = quantOne ∨ o.2 = quantOpt ∨ o.2 = quantMany := by
  induction ops with
  | nil => exact ⟨.nil, fun _ h => nomatch h⟩
  | cons o t ih =>
    unfold quantShape at h
    rw [List.pairwise_cons, List.forall_mem_cons]
    by_cases h1 : o.2 = quantOne
    · rw [if_pos (beq_iff_eq.2 h1)] at h
      exact ⟨⟨fun b _ => ⟨fun hne => absurd h1 hne, by rw [h1]; decide⟩, (ih h).1⟩, .inl h1, (ih h).2⟩
    rw [if_neg (by simpa using h1)] at h
    by_cases h2 : o.2 = quantOpt
    · rw [if_pos (beq_iff_eq.2 h2)] at h
      simp only [Bool.and_eq_true, List.all_eq_true, bne_iff_ne] at h
      exact ⟨⟨fun b hb => ⟨fun _ => h.1 b hb, by rw [h2]; decide⟩, (ih h.2).1⟩, .inr (.inl h2), (ih h.2).2⟩
    · rw [if_neg (by simpa using h2)] at h
      simp only [Bool.and_eq_true, beq_iff_eq, List.isEmpty_iff] at h
      obtain ⟨hm, rfl⟩ := h
      exact ⟨⟨(fun _ hb => nomatch hb), .nil⟩, .inr (.inr hm), fun _ hb => nomatch hb⟩

theorem quantShape_sound (ops : List (Nat × Nat)) (h : quantShape ops = true) : QuantShape ops :=
  .of_pairwise (quantShape_pairwise ops h).1 (quantShape_pairwise ops h).2

theorem Entry.wf_shape {K : KindIx} {n : Nat} {e : Entry} (h : e.wf K n = true) :
    resultsLead K e.ops = true ∧ QuantShape e.ops := by
  simp only [Entry.wf, Bool.and_eq_true] at h
  exact ⟨h.1.1, quantShape_sound _ h.1.2⟩

end Rspirv
