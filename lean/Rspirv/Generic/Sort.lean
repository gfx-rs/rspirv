/-
Structural, fuel-indexed merge sort that reduces in the kernel (`List.mergeSort` is defined by
well-founded recursion and does not), and the Boolean checks the tables are put through, each with
what it proves: with the fuel it is given `merge` is core's `List.merge`, whose lemmas carry over, so
`msort` is a permutation of its input (for every fuel) and sorts it when the fuel is its length; `strictInc` of a list says it has no duplicates, so `nodupCheck` decides `Nodup`;
`sameSet`, `samePairs`, `sortsTo` say two lists are permutations of each other. Last, what the tables get out of `Nodup` keys:
the first match for a key is the only one.
-/
namespace Rspirv

/-- Split a list into its elements at even and odd positions. -/
def halve {α} : List α → List α × List α
  | [] => ([], [])
  | [x] => ([x], [])
  | x :: y :: t => match halve t with
    | (a, b) => (x :: a, y :: b)

/-- merge with explicit fuel (structural recursion on the fuel, so the kernel can evaluate it);
out of fuel it appends, which is still a permutation. -/
def mergeF {α} (le : α → α → Bool) : Nat → List α → List α → List α
  | 0, xs, ys => xs ++ ys
  | _ + 1, [], ys => ys
  | _ + 1, xs, [] => xs
  | f + 1, x :: xs, y :: ys =>
    if le x y then x :: mergeF le f xs (y :: ys) else y :: mergeF le f (x :: xs) ys

def merge {α} (le : α → α → Bool) (xs ys : List α) : List α := mergeF le (xs.length + ys.length) xs ys

def msort {α} (le : α → α → Bool) : Nat → List α → List α
  | 0, l => l
  | _ + 1, [] => []
  | _ + 1, [x] => [x]
  | f + 1, x :: y :: t =>
    match halve (x :: y :: t) with
    | (a, b) => merge le (msort le f a) (msort le f b)

theorem halve_perm {α} : ∀ l : List α, List.Perm ((halve l).1 ++ (halve l).2) l
  | [] => .refl _
  | [_] => .refl _
  | x :: y :: t => .cons x (List.perm_middle.trans (.cons y (halve_perm t)))

/-- with the fuel `merge` gives it, `mergeF` is core's `List.merge`, whose lemmas then apply -/
theorem mergeF_eq_merge {α} (le : α → α → Bool) (f : Nat) (xs ys : List α) (h : xs.length + ys.length ≤ f) :
    mergeF le f xs ys = xs.merge ys le := by
  fun_induction mergeF le f xs ys with
  | case1 xs ys =>
    obtain ⟨rfl, rfl⟩ : xs = [] ∧ ys = [] := by simpa using h
    exact (List.nil_merge _).symm
  | case2 => rw [List.nil_merge]
  | case3 => rw [List.merge_right]
  | case4 f x xs y ys hle ih => rw [List.cons_merge_cons, if_pos hle, ih (by simp only [List.length_cons] at h ⊢; omega)]
  | case5 f x xs y ys hle ih => rw [List.cons_merge_cons, if_neg hle, ih (Nat.le_of_succ_le_succ h)]

theorem merge_eq {α} (le : α → α → Bool) (xs ys : List α) : merge le xs ys = xs.merge ys le :=
  mergeF_eq_merge le _ xs ys (Nat.le_refl _)

theorem msort_perm {α} (le : α → α → Bool) : ∀ (f : Nat) (l : List α), List.Perm (msort le f l) l
  | 0, _ => .refl _
  | _ + 1, [] => .refl _
  | _ + 1, [_] => .refl _
  | f + 1, x :: y :: t =>
    -- by `rfl` the left side is the `merge` of the sorted halves
    (merge_eq le _ _ ▸ List.merge_perm_append le).trans
      (((msort_perm le f _).append (msort_perm le f _)).trans (halve_perm (x :: y :: t)))

theorem mem_msort {α} (le : α → α → Bool) (f : Nat) (l : List α) (x : α) :
    x ∈ msort le f l ↔ x ∈ l := (msort_perm le f l).mem_iff

def strictInc : List Nat → Bool
  | [] => true
  | [_] => true
  | x :: y :: t => decide (x < y) && strictInc (y :: t)

theorem strictInc_iff : ∀ l : List Nat, strictInc l = true ↔ l.Pairwise (· < ·)
  | [] => by simp [strictInc]
  | [_] => by simp [strictInc]
  | x :: y :: t => by
    rw [strictInc, Bool.and_eq_true, decide_eq_true_eq, strictInc_iff (y :: t), List.pairwise_cons (a := x)]
    refine and_congr_left fun h => ⟨fun hxy z hz => ?_, fun h' => h' y List.mem_cons_self⟩
    rcases List.mem_cons.1 hz with rfl | hz
    · exact hxy
    · exact Nat.lt_trans hxy (List.rel_of_pairwise_cons h hz)

theorem strictInc_nodup (l : List Nat) (h : strictInc l = true) : l.Nodup :=
  ((strictInc_iff l).1 h).imp Nat.ne_of_lt

def natLe (a b : Nat) : Bool := Nat.ble a b

/-- Sort, skipping the work when the list is already strictly increasing (the common case for the
generated tables; kernel evaluation on this image runs at roughly 10^4 steps per second). -/
def sortNat (l : List Nat) : List Nat := if strictInc l then l else msort natLe l.length l

theorem sortNat_perm (l : List Nat) : List.Perm (sortNat l) l := by
  unfold sortNat; split
  · exact List.Perm.refl _
  · exact msort_perm _ _ _

/-- Decides `Nodup` in O(n log n) (O(n) when already sorted): `nodup_of_check`, `nodupCheck_of_nodup`. -/
def nodupCheck (l : List Nat) : Bool := strictInc (sortNat l)

theorem nodup_of_check (l : List Nat) (h : nodupCheck l = true) : l.Nodup :=
  (sortNat_perm l).nodup_iff.1 (strictInc_nodup _ h)

/-! `nodupCheck` is complete as well: `msort` with fuel `length` sorts. -/

theorem msort_sorted {α} {le : α → α → Bool} (trans : ∀ a b c, le a b → le b c → le a c) (total : ∀ a b, le a b || le b a)
    (f : Nat) (l : List α) (h : l.length ≤ f + 1) : (msort le f l).Pairwise (le · ·) := by
  fun_induction msort le f l with
  | case1 l => match l, h with
    | [], _ => exact .nil
    | [_], _ => exact List.pairwise_singleton _ _
  | case2 => exact .nil
  | case3 => exact List.pairwise_singleton _ _
  | case4 f x y t a b hab iha ihb =>
    -- both halves are shorter than `x :: y :: t`
    cases (hab : (x :: (halve t).1, y :: (halve t).2) = (a, b))
    have hl := (halve_perm t).length_eq
    simp only [List.length_cons, List.length_append] at hl h iha ihb
    rw [merge_eq]
    exact List.pairwise_merge trans total _ _ (iha (by omega)) (ihb (by omega))

theorem natLe_iff {a b : Nat} : natLe a b = true ↔ a ≤ b := by rw [natLe, Nat.ble_eq]

theorem nodupCheck_of_nodup (l : List Nat) (h : l.Nodup) : nodupCheck l = true := by
  unfold nodupCheck sortNat
  split
  · assumption
  · apply (strictInc_iff _).2
    have hs := msort_sorted (le := natLe) (fun _ _ _ h1 h2 => natLe_iff.2 (Nat.le_trans (natLe_iff.1 h1) (natLe_iff.1 h2)))
      (fun a b => by simpa only [Bool.or_eq_true, natLe_iff] using Nat.le_total a b) l.length l (Nat.le_succ _)
    have hn : (msort natLe l.length l).Nodup := (msort_perm _ _ _).nodup_iff.2 h
    exact (hs.and hn).imp fun ⟨h1, h2⟩ => Nat.lt_of_le_of_ne (natLe_iff.1 h1) h2

/-- Two lists have the same elements (indeed are permutations) if their sorted forms coincide. -/
def sameSet (a b : List Nat) : Bool := sortNat a == sortNat b

theorem perm_of_sameSet (a b : List Nat) (h : sameSet a b = true) : List.Perm a b := by
  have e : sortNat a = sortNat b := by simpa [sameSet] using h
  exact (sortNat_perm a).symm.trans (e ▸ sortNat_perm b)

def pairLe (p q : Nat × Nat) : Bool := Nat.blt p.2 q.2 || (p.2 == q.2 && Nat.ble p.1 q.1)

/-- same pairs up to order (sorted by second, then first component) -/
def samePairs (a b : List (Nat × Nat)) : Bool :=
  a == b || msort pairLe a.length a == msort pairLe b.length b

theorem perm_of_samePairs (a b : List (Nat × Nat)) (h : samePairs a b = true) : List.Perm a b := by
  simp only [samePairs, Bool.or_eq_true, beq_iff_eq] at h
  rcases h with rfl | e
  · exact List.Perm.refl _
  · exact (msort_perm pairLe a.length a).symm.trans (e ▸ msort_perm pairLe b.length b)

/-- `samePairs` for a second list that is already in the order wanted: only the first is sorted -/
def sortsTo (a b : List (Nat × Nat)) : Bool := a == b || msort pairLe a.length a == b

theorem perm_of_sortsTo (a b : List (Nat × Nat)) (h : sortsTo a b = true) : List.Perm a b := by
  simp only [sortsTo, Bool.or_eq_true, beq_iff_eq] at h
  rcases h with rfl | e
  · exact List.Perm.refl _
  · exact e ▸ (msort_perm pairLe a.length a).symm

/-! ### lists with pairwise different keys -/

/-- the first element that has the key of a member is that member -/
theorem find?_key {α κ : Type} [BEq κ] [LawfulBEq κ] (key : α → κ) {l : List α} (hn : (l.map key).Nodup) {a : α} (ha : a ∈ l) :
    l.find? (fun x => key x == key a) = some a := by
  obtain ⟨as, bs, rfl⟩ := List.append_of_mem ha
  rw [List.Nodup, List.pairwise_map, List.pairwise_append] at hn
  exact List.find?_eq_some_iff_append.2 ⟨beq_self_eq_true _, as, bs, rfl, fun x hx =>
    by simpa using hn.2.2 x hx a List.mem_cons_self⟩

/-- (`BEq κ` only because both members are what `find?_key` finds) -/
theorem inj_of_nodup_map {α κ : Type} [BEq κ] [LawfulBEq κ] (f : α → κ) {l : List α} (hn : (l.map f).Nodup) {a b : α}
    (ha : a ∈ l) (hb : b ∈ l) (h : f a = f b) : a = b :=
  Option.some.inj ((find?_key f hn ha).symm.trans (h ▸ find?_key f hn hb))

/-- so the first match for a key survives reordering -/
theorem find?_key_perm {α κ : Type} [BEq κ] [LawfulBEq κ] (key : α → κ) {l₁ l₂ : List α} (hp : l₁.Perm l₂)
    (hn : (l₂.map key).Nodup) (x : κ) : l₁.find? (fun a => key a == x) = l₂.find? (fun a => key a == x) := by
  cases h2 : l₂.find? (fun a => key a == x) with
  | some a =>
    have hk : key a = x := by simpa using List.find?_some h2
    subst hk
    exact find?_key key ((hp.map key).nodup_iff.2 hn) (hp.mem_iff.2 (List.mem_of_find?_eq_some h2))
  | none =>
    rw [List.find?_eq_none] at h2 ⊢
    exact fun a ha => h2 a (hp.mem_iff.1 ha)

end Rspirv
